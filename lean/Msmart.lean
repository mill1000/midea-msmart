import Msmart.Py.Basic
import Msmart.Py.Ops
import Msmart.Crypto.AES
import Msmart.Crypto.AESProps
import Msmart.Crypto.MD5
import Msmart.Crypto.ModeProps
import Msmart.Crypto.SHA256
import Msmart.Crypto.Tests
import Msmart.Generated.CapTable
import Msmart.Generated.Cli
import Msmart.Generated.Codec
import Msmart.Generated.Consts
import Msmart.Generated.Crc8Table
import Msmart.Generated.Enums
import Msmart.Model.Cli
import Msmart.Model.CliKind
import Msmart.Model.Cloud
import Msmart.Model.Command
import Msmart.Model.Device
import Msmart.Model.Discover
import Msmart.Model.Frame
import Msmart.Model.LanInt
import Msmart.Model.PacketV2
import Msmart.Model.PacketV3
import Msmart.Model.Reassembly
import Msmart.Model.Response
import Msmart.Model.Session
import Msmart.Model.Stack
import Msmart.Spec.CloudSpec
import Msmart.Spec.DeviceSpec
import Msmart.Spec.DiscoverSpec
import Msmart.Spec.FrameSpec
import Msmart.Spec.PropertyStore
import Msmart.Spec.V2Spec
import Msmart.Spec.V3Spec
import Msmart.Lemmas.Bits
import Msmart.Lemmas.CodecEq
import Msmart.Lemmas.CodecEqLan
import Msmart.Lemmas.Contained
import Msmart.Lemmas.Crc
import Msmart.Lemmas.Dict
import Msmart.Lemmas.PacketErr
import Msmart.Lemmas.RespFrame
import Msmart.Lemmas.SessionAbs
import Msmart.Lemmas.SessionContain
import Msmart.Lemmas.SessionCreds
import Msmart.Lemmas.SessionRecover
import Msmart.Lemmas.SessionRetry
import Msmart.Lemmas.SessionSettle
import Msmart.Lemmas.SessionSettleV2
import Msmart.Lemmas.SessionTrace
import Msmart.Lemmas.Stack
import Msmart.Lemmas.U8
import Msmart.Lemmas.Base
import Msmart.Lemmas.V2
import Msmart.Lemmas.V3
import Msmart.Props.C01
import Msmart.Props.C01Layers
import Msmart.Props.C01Stack
import Msmart.Props.C02
import Msmart.Props.C03
import Msmart.Props.C04
import Msmart.Props.C04Stream
import Msmart.Props.C05
import Msmart.Props.C06
import Msmart.Props.C07
import Msmart.Props.C07Session
import Msmart.Props.C08
import Msmart.Props.C09
import Msmart.Props.C09Transport
import Msmart.Props.C10
import Msmart.Props.C11
import Msmart.Props.C12
import Msmart.Props.C13
import Msmart.Props.C14
import Msmart.Props.C15
import Msmart.Props.C16
import Msmart.Props.C17
import Msmart.Props.C18
import Msmart.Props.C19
import Msmart.Props.C20
import Msmart.Props.C01Code
import Msmart.Props.C04Code
import Msmart.Props.C07Code
import Msmart.Props.C07Finding
