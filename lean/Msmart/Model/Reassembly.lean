/-
  Model of `_LanProtocolV3.data_received`: accumulate, find the start marker 83 70, need 6 header
  bytes, total = size field + 8, slice the packet off, requeue; nothing is trimmed on an early return.
-/
import Msmart.Py.Basic

namespace Msmart.Model

/-- `buffer.find(b"\x83\x70")` -/
def findMarker (b : Bytes) : Option Nat := Py.find2 0x83 0x70 b

/-- `int.from_bytes(buf[2:4], "big")` -/
def sizeField (buf : Bytes) : Nat := (buf.getD 2 0).toNat * 256 + (buf.getD 3 0).toNat

/-- with the buffer trimmed to the marker: header complete? whole packet there? then split -/
def takePacket (buf : Bytes) : Option (Bytes × Bytes) :=
  if buf.length < 6 then none else
  if buf.length < sizeField buf + 8 then none else
  some (buf.take (sizeField buf + 8), buf.drop (sizeField buf + 8))

/-- one iteration of the while loop: either emit a packet and the new buffer, or stop -/
def reasmStep (buffer : Bytes) : Option (Bytes × Bytes) :=
  match findMarker buffer with
  | none => none
  | some start => takePacket (buffer.drop start)

/-- the size field lies in the first four bytes -/
theorem sizeField_take (b : Bytes) {n : Nat} (h : 4 ≤ n) : sizeField (b.take n) = sizeField b := by
  unfold sizeField
  simp only [List.getD_eq_getElem?_getD, List.getElem?_take, show 2 < n by omega, show 3 < n by omega, ↓reduceIte]

theorem sizeField_append (p rest : Bytes) (h : 4 ≤ p.length) : sizeField (p ++ rest) = sizeField p := by
  rw [← sizeField_take (p ++ rest) h, List.take_left]

/-- the check for six header bytes decides nothing: a buffer that short is shorter than any packet -/
theorem takePacket_eq (buf : Bytes) :
    takePacket buf = if buf.length < sizeField buf + 8 then none
      else some (buf.take (sizeField buf + 8), buf.drop (sizeField buf + 8)) := by
  unfold takePacket; split
  · rw [if_pos (by omega)]
  · rfl

theorem takePacket_eq_some_iff {buf p r : Bytes} :
    takePacket buf = some (p, r) ↔ buf = p ++ r ∧ 8 ≤ p.length ∧ p.length = sizeField p + 8 := by
  rw [takePacket_eq]
  constructor
  · intro h
    by_cases hlt : buf.length < sizeField buf + 8
    · rw [if_pos hlt] at h; cases h
    · rw [if_neg hlt] at h; cases h
      rw [sizeField_take _ (by omega), List.length_take]
      exact ⟨(List.take_append_drop _ _).symm, by omega, by omega⟩
  · rintro ⟨rfl, h8, hsz⟩
    rw [sizeField_append p r (by omega), ← hsz, if_neg (by simp), List.take_left, List.drop_left]

theorem reasmStep_eq_some_iff {b p r : Bytes} :
    reasmStep b = some (p, r) ↔
      ∃ s, findMarker b = some s ∧ b.drop s = p ++ r ∧ 8 ≤ p.length ∧ p.length = sizeField p + 8 := by
  unfold reasmStep
  cases findMarker b <;> simp [takePacket_eq_some_iff]

theorem reasmStep_len {b p r : Bytes} (h : reasmStep b = some (p, r)) : 8 ≤ p.length := by
  obtain ⟨_, _, _, h8, _⟩ := reasmStep_eq_some_iff.1 h; exact h8

theorem reasmStep_shrinks {b p r : Bytes} (h : reasmStep b = some (p, r)) : r.length < b.length := by
  obtain ⟨s, _, hb, h8, _⟩ := reasmStep_eq_some_iff.1 h
  have := congrArg List.length hb
  simp only [List.length_drop, List.length_append] at this
  omega

/-- the whole `while` loop on a buffer: packets queued (in order) and the buffer left over.
    Termination: every iteration that continues removes at least 8 bytes. -/
def parseLoop (b : Bytes) : List Bytes × Bytes :=
  match h : reasmStep b with
  | none => ([], b)
  | some (p, r) =>
    let (ps, r') := parseLoop r
    (p :: ps, r')
termination_by b.length
decreasing_by exact reasmStep_shrinks h

theorem parseLoop_none {b : Bytes} (h : reasmStep b = none) : parseLoop b = ([], b) := by
  rw [parseLoop.eq_def]; split
  · rfl
  · rename_i hs; rw [h] at hs; cases hs

theorem parseLoop_some {b p r : Bytes} (h : reasmStep b = some (p, r)) :
    parseLoop b = (p :: (parseLoop r).1, (parseLoop r).2) := by
  rw [parseLoop.eq_def]; split
  · rename_i hs; rw [h] at hs; cases hs
  · rename_i hs; rw [h] at hs; cases hs; rfl

/-- `data_received(seg)` on a protocol whose buffer is `buf` -/
def feed (buf seg : Bytes) : List Bytes × Bytes := parseLoop (buf ++ seg)

/-- a sequence of `data_received` calls: everything queued, in order, and the final buffer -/
def feedAll : Bytes → List Bytes → List Bytes × Bytes
  | buf, [] => ([], buf)
  | buf, s :: t => ((feed buf s).1 ++ (feedAll (feed buf s).2 t).1, (feedAll (feed buf s).2 t).2)

end Msmart.Model
