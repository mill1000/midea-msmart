/-
  Python integer / bytes operators used by the TRANSLATED code (`Generated/Codec.lean`, written by
  harness/pytrans.py from the source text of /repo).  Python ints are `Int`; `&`, `|`, `^` follow
  Python's infinite two's-complement semantics.  Below the definitions: the operator facts the equalities of
  `Lemmas/CodecEq*.lean` rewrite with, each stated once for any mask, shift, literal or bound.
-/
import Msmart.Py.Basic

namespace Msmart.Py

/-- number of bits of a natural number (`int.bit_length`) -/
def bitLenAux : Nat → Nat → Nat
  | 0, _ => 0
  | fuel + 1, m => if m = 0 then 0 else 1 + bitLenAux fuel (m / 2)
def bitLen (m : Nat) : Nat := bitLenAux m m

/-- `x & m` for a NON-NEGATIVE literal `m`: only the low `bitLen m` bits of `x` matter, and in two's
    complement those are the bits of `x mod 2^(bitLen m)` — for negative `x` too. -/
def band (x : Int) (m : Nat) : Int := (((x % ((2 ^ bitLen m : Nat) : Int)).toNat &&& m : Nat) : Int)

/-- bits set in `a` and clear in `b` -/
def ldiff (a b : Nat) : Nat := Nat.bitwise (fun x y => x && !y) a b

/-- `a & b` on arbitrary ints -/
def land : Int → Int → Int
  | .ofNat m, .ofNat n => ((m &&& n : Nat) : Int)
  | .ofNat m, .negSucc n => ((ldiff m n : Nat) : Int)
  | .negSucc m, .ofNat n => ((ldiff n m : Nat) : Int)
  | .negSucc m, .negSucc n => .negSucc (m ||| n)

/-- `a | b` -/
def bor : Int → Int → Int
  | .ofNat m, .ofNat n => ((m ||| n : Nat) : Int)
  | .ofNat m, .negSucc n => .negSucc (ldiff n m)
  | .negSucc m, .ofNat n => .negSucc (ldiff m n)
  | .negSucc m, .negSucc n => .negSucc (m &&& n)

/-- `a ^ b` -/
def bxor : Int → Int → Int
  | .ofNat m, .ofNat n => ((m ^^^ n : Nat) : Int)
  | .ofNat m, .negSucc n => .negSucc (m ^^^ n)
  | .negSucc m, .ofNat n => .negSucc (m ^^^ n)
  | .negSucc m, .negSucc n => ((m ^^^ n : Nat) : Int)

/-- `bytes([...])` / `bytearray([...])`: every element must be in `range(256)`, else ValueError -/
def bytesOf (l : List Int) : R Bytes :=
  if l.all (fun x => decide (0 ≤ x) && decide (x < 256)) then .ok (l.map (fun x => x.toNat.toUInt8))
  else .error (.py "ValueError")

/-- `payload[i]` (a Python int 0..255) for a natural index -/
def idxI (l : Bytes) (i : Nat) : R Int :=
  match l[i]? with | some x => .ok (x.toNat : Int) | none => .error indexError

/-- a bytes object as the list of its Python ints -/
def ints (b : Bytes) : List Int := b.map (fun x => (x.toNat : Int))

/-- `sum(seq)` -/
def sumI (l : List Int) : Int := l.foldl (· + ·) 0

/-- `TABLE[i]` for an index the translator has shown to be in range (`expr & mask`, mask < len) -/
def tableGet (t : List Int) (i : Int) : Int := t.getD i.toNat 0

/-- values Python range-checks on the way (bytearray item assignment, `append`): ValueError when one is outside
    `range(256)`, otherwise the rest of the computation -/
def guardRange {α} (vals : List Int) (k : R α) : R α :=
  if vals.all (fun x => decide (0 ≤ x) && decide (x < 256)) then k else .error (.py "ValueError")

/-- `b[i]` as a Python int, constant (possibly negative) index -/
def indexI (l : Bytes) (i : Int) : R Int :=
  match Py.index l i with | .ok b => .ok (b.toNat : Int) | .error e => .error e

/-- `n.to_bytes(k, "little" | "big")` on a Python int: OverflowError when negative or too large -/
def toBytesLEI (k : Nat) (n : Int) : R Bytes :=
  if n < 0 then .error (.py "OverflowError") else toBytesLE k n.toNat
def toBytesBEI (k : Nat) (n : Int) : R Bytes :=
  if n < 0 then .error (.py "OverflowError") else toBytesBE k n.toNat

/-- `try: … except <cls>: raise <e>` around one operation -/
def mapErr {α} (cls : String) (e : Err) (r : R α) : R α :=
  match r with
  | .error (.py c) => if c = cls then .error e else .error (.py c)
  | r => r

/-- `Crypto.Util.strxor.strxor`: ValueError unless both have the same length -/
def strxor (a b : Bytes) : R Bytes :=
  if a.length ≠ b.length then .error (.py "ValueError") else .ok (xorBytes a b)

/-- `b.find(pat)` from offset `i` on: index of the first occurrence of `pat`, −1 when there is none -/
def findFrom (pat : Bytes) : Bytes → Nat → Int
  | [], i => if pat.isEmpty then (i : Int) else -1
  | x :: xs, i => if pat.isPrefixOf (x :: xs) then (i : Int) else findFrom pat xs (i + 1)

/-- `b.find(pat)` -/
def findI (b pat : Bytes) : Int := findFrom pat b 0

/-- `SomeIntEnum.get_from_value(x)`: x when it is the value of a member, else the enum's DEFAULT (both as ints) -/
def enumGetI (e : List (String × Nat)) (dflt : Nat) (x : Int) : Int :=
  if decide (0 ≤ x) && (e.map Prod.snd).contains x.toNat then x else (dflt : Int)

theorem findFrom_ge (pat : Bytes) (b : Bytes) (i : Nat) : -1 ≤ findFrom pat b i := by
  fun_induction findFrom pat b i with
  | case1 | case2 | case3 => omega
  | case4 _ _ _ _ ih => exact ih

/-- `bytes.find` returns -1 or an index: the translator writes `find(...) < 0`, `<= -1`, `== -1` as one test -/
theorem findI_ge (b pat : Bytes) : -1 ≤ findI b pat := findFrom_ge pat b 0

theorem findFrom_find2 (a c : UInt8) (b : Bytes) (i : Nat) :
    findFrom [a, c] b i = (match find2 a c b with | some j => ((i + j : Nat) : Int) | none => -1) := by
  induction b generalizing i with
  | nil => rfl
  | cons x xs ih =>
    cases xs with
    | nil => simp [findFrom, find2, List.isPrefixOf]
    | cons y t =>
      rw [findFrom, find2, ih]
      by_cases h : x = a ∧ y = c
      · obtain ⟨rfl, rfl⟩ := h
        simp [List.isPrefixOf]
      · have hp : ([a, c] : Bytes).isPrefixOf (x :: y :: t) = false := by
          simpa [List.isPrefixOf, eq_comm (a := a), eq_comm (a := c)] using h
        rw [hp, if_neg h, if_neg Bool.false_ne_true]
        cases find2 a c (y :: t) with
        | none => rfl
        | some j => exact congrArg Int.ofNat (Nat.add_right_comm i 1 j)

theorem band_ofNat (n m : Nat) : band (n : Int) m = ((n % 2 ^ bitLen m &&& m : Nat) : Int) := by
  unfold band
  rw [← Int.natCast_emod, Int.toNat_natCast]

theorem bor_ofNat (m n : Nat) : bor (m : Int) (n : Int) = ((m ||| n : Nat) : Int) := rfl

theorem lt_two_pow_bitLenAux (fuel m : Nat) (h : m ≤ fuel) : m < 2 ^ bitLenAux fuel m := by
  induction fuel generalizing m with
  | zero => unfold bitLenAux; omega
  | succ f ih =>
    unfold bitLenAux
    split
    · omega
    · have := ih (m / 2) (by omega)
      rw [Nat.pow_add, Nat.pow_one]; omega

theorem lt_two_pow_bitLen (m : Nat) : m < 2 ^ bitLen m := lt_two_pow_bitLenAux m m (Nat.le_refl m)

theorem mod_two_pow_and (n : Nat) {m j : Nat} (h : m < 2 ^ j) : n % 2 ^ j &&& m = n &&& m := by
  apply Nat.eq_of_testBit_eq
  intro i
  rw [Nat.testBit_and, Nat.testBit_and, Nat.testBit_mod_two_pow]
  by_cases hi : i < j
  · simp [hi]
  · rw [Nat.testBit_lt_two_pow (Nat.lt_of_lt_of_le h (Nat.pow_le_pow_right (by decide) (by omega)))]
    simp

theorem band_natCast (n m : Nat) : band (n : Int) m = ((n &&& m : Nat) : Int) := by
  rw [band_ofNat, mod_two_pow_and n (lt_two_pow_bitLen m)]

/-- `m = 2^k - 1`; on a literal mask the hypothesis is decided -/
theorem and_mask (n : Nat) {m : Nat} (h : m + 1 = 2 ^ bitLen m) : n &&& m = n % (m + 1) := by
  have hm : m = 2 ^ bitLen m - 1 := by omega
  rw [hm, Nat.and_two_pow_sub_one_eq_mod, ← hm, ← h]

theorem band_mask (x : Int) {m : Nat} (h : m + 1 = 2 ^ bitLen m) : band x m = x % ((m + 1 : Nat) : Int) := by
  unfold band
  rw [and_mask _ h, ← h, Int.natCast_emod, Int.toNat_of_nonneg (Int.emod_nonneg _ (by omega)), Int.emod_emod]

/-- whatever the literal: its bits above the eighth meet no bit of the byte -/
theorem band_u8 (b : UInt8) (m : Nat) : band (b.toNat : Int) m = ((b &&& UInt8.ofNat m).toNat : Int) := by
  rw [band_natCast, UInt8.toNat_and, UInt8.toNat_ofNat', Nat.and_comm, Nat.and_comm _ (m % 2 ^ 8),
    mod_two_pow_and m b.toNat_lt]

theorem shr_u8 (b : UInt8) {k : Nat} (hk : k < 8) :
    (b.toNat : Int) >>> k = ((b >>> UInt8.ofNat k).toNat : Int) := by
  rw [UInt8.toNat_shiftRight, UInt8.toNat_ofNat_of_lt' (Nat.lt_trans hk (by decide)), Nat.mod_eq_of_lt hk,
    Int.natCast_shiftRight]

theorem bxor_u8 (a b : UInt8) : bxor (a.toNat : Int) (b.toNat : Int) = ((a ^^^ b).toNat : Int) := by
  rw [UInt8.toNat_xor]; rfl

/-- stated for every `k`, so that `simp` needs no discharger; on a literal the range is evaluated -/
theorem u8_eq_int (b : UInt8) (k : Int) :
    ((b.toNat : Int) = k) ↔ 0 ≤ k ∧ k < 256 ∧ b = UInt8.ofNat k.toNat := by
  have := b.toNat_lt
  constructor
  · intro h
    refine ⟨by omega, by omega, ?_⟩
    rw [← h, Int.toNat_natCast, UInt8.ofNat_toNat]
  · intro ⟨h0, h1, hb⟩
    rw [hb, UInt8.toNat_ofNat_of_lt' (show k.toNat < 256 by omega)]; omega

theorem int_eq_u8 (b : UInt8) (k : Int) :
    (k = (b.toNat : Int)) ↔ 0 ≤ k ∧ k < 256 ∧ b = UInt8.ofNat k.toNat := by
  rw [eq_comm, u8_eq_int]

theorem u8_eq_u8 (a b : UInt8) : ((a.toNat : Int) = (b.toNat : Int)) ↔ a = b := by
  rw [← UInt8.toNat_inj]; omega

theorem natCast_lt_int (n : Nat) (k : Int) : ((n : Int) < k) ↔ n < k.toNat := by omega
theorem int_le_natCast (n : Nat) (k : Int) : (k ≤ (n : Int)) ↔ ¬ n < k.toNat := by omega
theorem natCast_eq_int (n : Nat) {k : Int} (h : 0 ≤ k) : ((n : Int) = k) ↔ n = k.toNat := by omega
theorem int_eq_natCast (n : Nat) {k : Int} (h : 0 ≤ k) : (k = (n : Int)) ↔ n = k.toNat := by omega

theorem xorBytes_comm (a b : Bytes) : xorBytes a b = xorBytes b a := by
  induction a generalizing b with
  | nil => cases b <;> rfl
  | cons x xs ih =>
    cases b with
    | nil => rfl
    | cons y ys => rw [xorBytes, xorBytes, ih, UInt8.xor_comm]

/-- the translator writes the arguments of `strxor` in text order -/
theorem strxor_comm (a b : Bytes) : strxor a b = strxor b a := by
  unfold strxor; rw [xorBytes_comm a b]; exact ite_congr (propext ne_comm) (fun _ => rfl) fun _ => rfl

theorem idxI_eq (l : Bytes) (i : Nat) : idxI l i = (idx l i).map (fun b => (b.toNat : Int)) := by
  unfold idxI idx; cases l[i]? <;> rfl

theorem idxI_bind {α} (l : Bytes) (i : Nat) (f : Int → R α) :
    (idxI l i >>= f) = (idx l i >>= fun b => f (b.toNat : Int)) := by
  unfold idxI idx; cases l[i]? <;> rfl

theorem indexI_nonneg (l : Bytes) {i : Int} (h : 0 ≤ i) : indexI l i = idxI l i.toNat := by
  unfold indexI index idxI; rw [if_neg (by omega)]; cases l[i.toNat]? <;> rfl

theorem indexI_lit (l : Bytes) (n : Nat) : indexI l (no_index (OfNat.ofNat n)) = idxI l n :=
  indexI_nonneg l (Int.natCast_nonneg n)

theorem clampIdx_nonneg (len : Nat) {i : Int} (h : 0 ≤ i) : clampIdx len i = min i.toNat len := by
  unfold clampIdx; rw [if_neg (by omega)]

theorem clampIdx_neg (len : Nat) {i : Int} (h : i < 0) : clampIdx len i = len - (-i).toNat := by
  unfold clampIdx; rw [if_pos h]; split <;> omega

theorem take_drop_min {α} (l : List α) (a b : Nat) :
    (l.take (min b l.length)).drop (min a l.length) = (l.take b).drop a := by
  rw [← List.take_eq_take_min, List.drop_eq_drop_iff, List.length_take, Nat.min_assoc,
    Nat.min_eq_right (Nat.min_le_right _ _)]

theorem slice_takeI {α} (l : List α) (b : Int) (hb : 0 ≤ b) : slice l none (some b) = l.take b.toNat := by
  have := take_drop_min l 0 b.toNat
  unfold slice; simpa only [clampIdx_nonneg _ hb, Nat.zero_min, List.drop_zero] using this

theorem slice_dropI {α} (l : List α) (a : Int) (ha : 0 ≤ a) : slice l (some a) none = l.drop a.toNat := by
  have := take_drop_min l a.toNat l.length
  unfold slice; simpa only [clampIdx_nonneg _ ha, Nat.min_self, List.take_length] using this

theorem slice_mid_negI {α} (l : List α) (a b : Int) (ha : 0 ≤ a) (hb : b < 0) :
    slice l (some a) (some b) = (l.take (l.length - (-b).toNat)).drop a.toNat := by
  have := take_drop_min l a.toNat (l.length - (-b).toNat)
  unfold slice; simpa only [clampIdx_nonneg _ ha, clampIdx_neg _ hb, Nat.min_eq_left (Nat.sub_le _ _)] using this

theorem slice_take_negI {α} (l : List α) (b : Int) (hb : b < 0) :
    slice l none (some b) = l.take (l.length - (-b).toNat) := by
  unfold slice; simp only [clampIdx_neg _ hb, List.drop_zero]

theorem slice_lastI {α} (l : List α) (a : Int) (ha : a < 0) :
    slice l (some a) none = l.drop (l.length - (-a).toNat) := by
  unfold slice; simp only [clampIdx_neg _ ha, List.take_length]

end Msmart.Py
