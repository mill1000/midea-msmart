/-
  C03 — V2 packet integrity: a packet is accepted only when its signature matches its content;
  truncations and alterations are rejected outright or reduce to an explicit MD5 event.
-/
import Msmart.Lemmas.CodecEqLan
import Msmart.Props.C02

namespace Msmart.Props.C03
open Msmart.Model Msmart.Lemmas Msmart.Crypto

/-- **C03 (accepted only when signed).** Whatever bytes arrive, if the decoder gets past its
    checks then the bytes carry the start marker, a length field not exceeding what arrived, and —
    for the packet cut to that length — a last-16-byte tag equal to the keyed MD5 of everything
    before it; the ciphertext handed to the cipher is exactly bytes 40.. of that signed part. -/
theorem accepted_only_when_signed (data enc : Bytes) (h : packetCheck data = .ok enc) :
    6 ≤ data.length ∧ data.take 2 = [0x5A, 0x5A] ∧
    Py.fromLE ((data.drop 4).take 2) ≤ data.length ∧
    sign ((v2Cut data).take ((v2Cut data).length - 16)) = (v2Cut data).drop ((v2Cut data).length - 16) ∧
    enc = ((v2Cut data).take ((v2Cut data).length - 16)).drop 40 := by
  obtain ⟨⟨h6, h2, hl, hs⟩, rfl⟩ := ok_of_ite (packetCheck_eq data ▸ h)
  exact ⟨h6, h2, hl, hs, rfl⟩

theorem decode_accepts_only_signed (data f : Bytes) (h : packetDecode data = .ok f) :
    ∃ enc, packetCheck data = .ok enc := by
  unfold packetDecode at h
  cases hc : packetCheck data with
  | error e => simp [hc] at h
  | ok enc => exact ⟨enc, rfl⟩

/-- whatever fails one of the four checks is rejected -/
theorem rejected_of_not {data : Bytes} (h : ¬ (6 ≤ data.length ∧ data.take 2 = [0x5A, 0x5A] ∧
      Py.fromLE ((data.drop 4).take 2) ≤ data.length ∧
      sign ((v2Cut data).take ((v2Cut data).length - 16)) = (v2Cut data).drop ((v2Cut data).length - 16))) :
    packetDecode data = .error .protocol :=
  packetDecode_of_check_err (by rw [packetCheck_eq, if_neg h])

/-- **C03 (marker).** Any alteration of the start marker is rejected outright. -/
theorem marker_alteration_rejected (data : Bytes) (h : data.take 2 ≠ [0x5A, 0x5A]) :
    packetDecode data = .error .protocol :=
  rejected_of_not fun hc => h hc.2.1

/-- **C03 (length field).** A length field that claims more than what arrived is rejected outright. -/
theorem length_increase_rejected (data : Bytes) (h : data.length < Py.fromLE ((data.drop 4).take 2)) :
    packetDecode data = .error .protocol :=
  rejected_of_not fun hc => by omega

/-- an authentic packet: what a device (the independent encoder) emits for a frame -/
def authentic (id : Nat) (ts filler frame : Bytes) : Bytes := Spec.V2.encode id ts filler frame

theorem authentic_length (id : Nat) (ts filler frame : Bytes) (hts : ts.length = 8) (hfl : filler.length = 12)
    (hlen : 56 + (encryptAes frame).length < 65536) :
    (authentic id ts filler frame).length = 56 + (encryptAes frame).length := by
  obtain ⟨hH, _, _, _⟩ := C02.spec_header_facts frame ts filler id hts hfl hlen
  rw [authentic, C02.spec_encode_eq, List.length_append, List.length_append, hH, sign_length]; omega

/-- **C03 (truncation).** Every proper prefix of an authentic packet is rejected with a protocol
    error (too short, or shorter than its own length field). -/
theorem truncation_rejected (id : Nat) (ts filler frame : Bytes) (hts : ts.length = 8) (hfl : filler.length = 12)
    (hlen : 56 + (encryptAes frame).length < 65536) (n : Nat)
    (hn : n < (authentic id ts filler frame).length) :
    packetDecode ((authentic id ts filler frame).take n) = .error .protocol := by
  obtain ⟨hH, _, hl, _⟩ := C02.spec_header_facts frame ts filler id hts hfl hlen
  have hL := authentic_length id ts filler frame hts hfl hlen
  have htl : ((authentic id ts filler frame).take n).length = n := by rw [List.length_take]; omega
  by_cases h6 : n < 6
  · exact rejected_of_not fun hc => by omega
  · apply length_increase_rejected
    -- the length field survives the cut and still tells the full length
    rw [htl, List.drop_take, List.take_take, Nat.min_eq_left (by omega), authentic, C02.spec_encode_eq,
      List.append_assoc, drop_take_of_prefix _ _ 4 2 (by omega), hl]
    omega

/-- **C03 (tag).** Any alteration confined to the 16-byte signature is rejected outright. -/
theorem tag_alteration_rejected (id : Nat) (ts filler frame tag' : Bytes) (hts : ts.length = 8)
    (hfl : filler.length = 12) (hlen : 56 + (encryptAes frame).length < 65536)
    (htl : tag'.length = 16)
    (hne : tag' ≠ sign (Spec.V2.header id ts filler frame ++ encryptAes frame)) :
    packetDecode ((Spec.V2.header id ts filler frame ++ encryptAes frame) ++ tag') = .error .protocol := by
  obtain ⟨hH, _, hl, _⟩ := C02.spec_header_facts frame ts filler id hts hfl hlen
  exact packetDecode_of_check_err (by rw [packetCheck_layout _ _ _ hH htl hl, if_neg fun hc => hne hc.2.symm])

/-- the named cryptographic event: two different inputs with the same MD5 -/
def Md5Collision (x y : Bytes) : Prop := x ≠ y ∧ MD5.md5 x = MD5.md5 y

/-- **C03 (reduction).** Take an authentic packet and alter its signed part (header or encrypted
    payload, in any number of bytes) while keeping its length, its length field and its tag. If
    the decoder gets past the signature check at all, then the original and the altered signed
    text (each followed by the fixed key) are an explicit MD5 collision.  In particular a decoded
    frame different from the one sent is impossible without that event. -/
theorem payload_alteration_collision (id : Nat) (ts filler frame hb' enc : Bytes) (hts : ts.length = 8)
    (hfl : filler.length = 12) (hlen : 56 + (encryptAes frame).length < 65536)
    (hsame : hb'.length = (Spec.V2.header id ts filler frame ++ encryptAes frame).length)
    (hne : hb' ≠ Spec.V2.header id ts filler frame ++ encryptAes frame)
    (hlf : Py.fromLE ((hb'.drop 4).take 2) = 56 + (encryptAes frame).length)
    (hacc : packetCheck (hb' ++ sign (Spec.V2.header id ts filler frame ++ encryptAes frame)) = .ok enc) :
    Md5Collision (hb' ++ Generated.signKey)
      ((Spec.V2.header id ts filler frame ++ encryptAes frame) ++ Generated.signKey) := by
  obtain ⟨hH, _, _, _⟩ := C02.spec_header_facts frame ts filler id hts hfl hlen
  have hbl : hb'.length = 40 + (encryptAes frame).length := by rw [hsame, List.length_append, hH]
  rw [packetCheck_append _ _ (sign_length _) (by omega) (by omega)] at hacc
  exact ⟨fun h => hne (List.append_cancel_right h), (ok_of_ite hacc).1.2⟩

/-! non-vacuity: the hypotheses are met by a concrete authentic packet -/
example : (authentic 7 (Py.zeros 8) (Py.zeros 12) [1, 2, 3]).length = 72 := by
  rw [authentic_length _ _ _ _ rfl rfl (by rw [encryptAes_length]; decide), encryptAes_length]; rfl

/-! ### about the code as translated from the source text (tie by translation, §3.1b) -/

/-- **C03 about the translated `_Packet.decode`**: it IS the model's `packetDecode` on every byte string, so every
    theorem of this file (exact acceptance condition, truncation, tag / marker / length alterations, the collision
    reduction) is a statement about the translated code; the acceptance condition restated: -/
theorem decode_accepts_only_signed_code (data f : Bytes) (h : Generated.Codec.packetDecode data = .ok f) :
    ∃ enc, packetCheck data = .ok enc := by
  rw [CodecEq.packetDecode_eq] at h; exact decode_accepts_only_signed data f h

theorem marker_alteration_rejected_code (data : Bytes) (h : data.take 2 ≠ [0x5A, 0x5A]) :
    Generated.Codec.packetDecode data = .error .protocol := by
  rw [CodecEq.packetDecode_eq]; exact marker_alteration_rejected data h

end Msmart.Props.C03
