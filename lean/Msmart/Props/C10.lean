/-
  C10 — the control command encodes exactly the requested state (vendor bit layout); distinct
  requested states never produce the same body.
-/
import Msmart.Lemmas.CodecEq
import Msmart.Lemmas.Bits

namespace Msmart.Props.C10
open Msmart.Model Msmart.Lemmas

/-- the attributes of an `AirConditioner` object after the user has assigned the state `s`
    through the public setters -/
def devOf (s : Spec.DevState) : Dev :=
  { ({} : Dev) with
    power := s.power, beep := s.beep, mode := s.mode, tempCenti := (s.tempHalf : Int) * 50,
    fan := (s.fan : Int), swing := s.swing, eco := s.eco, turbo := s.turbo, sleep := s.sleep,
    fahrenheit := s.fahrenheit, freeze := some s.freeze, followMe := s.followMe,
    purifier := s.purifier, humidity := some s.humidity, auxMode := s.aux }

/-- byte 2 and byte 18: the two temperature codes and the mode in the high three bits, over the whole domain -/
theorem temp_rt : ∀ t : Nat, t < 88 → 26 ≤ t → ∀ m : Nat, m < 8 →
    Spec.setpointHalf (tempByte ((t : Int) * 50) ||| ((m % 8 * 32).toUInt8)) (tempAltByte ((t : Int) * 50)) = t ∧
    ((tempByte ((t : Int) * 50) ||| ((m % 8 * 32).toUInt8)) >>> 5).toNat = m := by
  decide +kernel

/-- the aux-heat mode from its two flags -/
theorem aux_rt : ∀ a, a < 3 → (if a = 2 then 2 else if a = 1 then 1 else 0) = a := by decide

theorem setstate_body (s : Spec.DevState) (hv : s.Valid) :
    ∃ body, setStateBody (setStateOfDev (devOf s)) = .ok body ∧ body.length = 24 ∧
      Spec.decodeSetState body = some s := by
  obtain ⟨power, beep, mode, t, fan, swing, eco, turbo, sleep, fahr, freeze, follow, pur, hum, aux⟩ := s
  obtain ⟨hm, ht1, ht2, hf, hs, hh, ha⟩ := hv
  simp only at hm ht1 ht2 hf hs hh ha
  have ht := temp_rt t (by omega) ht1 mode hm
  unfold setStateBody
  rw [if_neg (by simp only [setStateOfDev, devOf]; omega)]
  refine ⟨_, rfl, rfl, ?_⟩
  dsimp only [setStateOfDev, devOf, Option.getD_some]
  -- every flag: reading distributes over `|||`, and a flag answers only to its own mask
  simp (config := { decide := true }) only [Spec.decodeSetState, show Generated.controlSource.toUInt8 = 2 from rfl,
    show bit 2 1 = false from rfl, show bit 2 64 = false from rfl, tb_eq_bit, bit_or, bit_flag, decide_true, decide_false,
    Bool.and_true, Bool.and_false, Bool.or_false, Bool.false_or, Bool.or_self, ↓reduceIte, Option.some.injEq,
    Spec.DevState.mk.injEq, true_and, decide_eq_true_eq, aux_rt aux ha, Int.toNat_natCast, ht.1, ht.2, and_true]
  -- fan speed, swing and humidity: the mask distributes too, and on the values it is a remainder
  simp (disch := first | decide | omega) only [and_or, UInt8.toNat_and, UInt8.toNat_or, UInt8.toNat_ofNat', Nat.toUInt8_eq,
    UInt8.reduceToNat, Py.and_mask, Nat.reduceAdd, Nat.reduceMod, Nat.reducePow, Nat.zero_or, Nat.mod_eq_of_lt, and_self]

/-- **C10 (round trip).** For every settable state in the domain, the 0x40 body `apply()` puts on
    the wire decodes, under the vendor layout, to exactly that state. -/
theorem setstate_roundtrip (s : Spec.DevState) (hv : s.Valid) :
    ∃ body, setStateBody (setStateOfDev (devOf s)) = .ok body ∧
      Spec.decodeSetState body = some s :=
  let ⟨body, h, _, hd⟩ := setstate_body s hv
  ⟨body, h, hd⟩

/-- **C10 (injectivity).** Distinct requested states never produce the same command body. -/
theorem setstate_injective (s₁ s₂ : Spec.DevState) (h₁ : s₁.Valid) (h₂ : s₂.Valid)
    (h : setStateBody (setStateOfDev (devOf s₁)) = setStateBody (setStateOfDev (devOf s₂))) :
    s₁ = s₂ := by
  obtain ⟨b₁, e₁, d₁⟩ := setstate_roundtrip s₁ h₁
  obtain ⟨b₂, e₂, d₂⟩ := setstate_roundtrip s₂ h₂
  rw [e₁, e₂] at h
  cases h
  rw [d₁] at d₂
  exact Option.some.inj d₂

/-- outside the byte range the code raises instead of emitting a wrong command -/
theorem fan_out_of_range (s : SetState) (h : s.fan < 0 ∨ 255 < s.fan) :
    setStateBody s = .error (.py "ValueError") := by
  unfold setStateBody; rw [if_pos h]

/-! ### the same statements about the code as translated from the source text (tie by translation) -/

/-- **C10 about the translated `SetStateCommand.tobytes`** (`Generated/Codec.lean`, regenerated from the source on
    every run): the body it builds for every settable state decodes, under the vendor layout, to that state. -/
theorem setstate_roundtrip_code (s : Spec.DevState) (hv : s.Valid) :
    ∃ body, CodecEq.setStateCode (setStateOfDev (devOf s)) = .ok body ∧
      Spec.decodeSetState body = some s := by
  rw [CodecEq.setStateBody_eq]; exact setstate_roundtrip s hv

theorem setstate_injective_code (s₁ s₂ : Spec.DevState) (h₁ : s₁.Valid) (h₂ : s₂.Valid)
    (h : CodecEq.setStateCode (setStateOfDev (devOf s₁)) = CodecEq.setStateCode (setStateOfDev (devOf s₂))) :
    s₁ = s₂ := by
  rw [CodecEq.setStateBody_eq, CodecEq.setStateBody_eq] at h; exact setstate_injective s₁ s₂ h₁ h₂ h

/-- **C10 about `apply()` AND `SetStateCommand.tobytes` as translated**: from the attributes of the device object to the
    bytes of the 0x40 body, for every settable state. -/
theorem setstate_roundtrip_apply_code (s : Spec.DevState) (hv : s.Valid) :
    ∃ body, CodecEq.applyThenTobytes (devOf s) = .ok body ∧ Spec.decodeSetState body = some s := by
  rw [CodecEq.applyThenTobytes_eq]; exact setstate_roundtrip s hv

/-! non-vacuity -/
example : (⟨true, false, 2, 41, 102, 0xC, true, false, true, false, true, false, true, 55, 2⟩ : Spec.DevState).Valid := by
  decide
example : Spec.decodeSetState [0x40, 0x43, 0x54, 102, 0x7f, 0x7f, 0, 0x3c, 0, 0x80, 0, 0,0,0,0,0,0,0, 0, 40, 0, 0, 0, 0]
    = some ⟨true, true, 2, 41, 102, 0xC, true, false, false, false, false, false, false, 40, 0⟩ := by decide

end Msmart.Props.C10
