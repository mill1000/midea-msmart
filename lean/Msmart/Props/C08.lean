/-
  C08 — retry, timeout and recovery contract of an exchange, over the Session model, for EVERY peer
  (reaction function), every connection outcome and every state.  The transmissions of a request are
  bounded by the retry budget and stop at the first answer; a final timeout used all of them and dropped
  the connection; the device level reports the failures as "no response", a refresh without responses
  reports the device offline.  Recovery: from every state the faults lead to (connection not alive, or
  settled after any history of faults), on a quiet network, the next exchange with a promptly answering
  device returns its response after a single transmission.
-/
import Msmart.Lemmas.SessionSettleV2
import Msmart.Props.C01Layers
import Msmart.Props.C06
import Msmart.Lemmas.SessionContain
import Msmart.Props.C13

namespace Msmart.Props.C08
open Msmart.Model Msmart.Model.Session Msmart.Lemmas.Sess

/-- **C08 (transmission bounds).** For every peer and every state: an exchange transmits its request at
    most `retries` times; if it returns responses it transmitted at least once (for `retries ≥ 1`);
    if it fails with a timeout after transmitting at all, the connection has been dropped and — unless
    the caller cancelled the call — it transmitted exactly `retries` times.
    (`tx` = data packets the exchange appended to the write log.) -/
theorem tx_bounds (p : Params) (rx : Reactions) (s s' : S) (frame : Bytes) (retries : Nat) (r : R (List Bytes))
    (h : lanSend p rx s frame retries = (r, s')) :
    ∃ tr, evsOf s' = evsOf s ++ tr ∧ nData tr ≤ retries ∧
      (∀ got, r = .ok got → retries = 0 ∨ 1 ≤ nData tr) ∧
      (r = .error .timeout → nData tr ≠ 0 → s'.l.conn = none ∧ (s.w.cancelAt = none → nData tr = retries)) ∧
      (∀ e ∈ tr, isData e = true → DataOf frame e) := by
  obtain ⟨tc, ta, te, i, _⟩ := lanSend_tr h
  have hn : nData (tc ++ ta ++ te) = nData te := by
    rw [nData_append, nData_append, nData_eq_zero fun e he => (i.conn e he).spec.1,
      nData_eq_zero fun e he => (i.auth e he).spec.1]; omega
  refine ⟨tc ++ ta ++ te, i.path.evs, hn ▸ i.le, hn ▸ i.ok, ?_, ?_⟩
  · intro hr hne
    rw [hn] at hne ⊢
    exact i.timeout hr (by rintro rfl; exact hne rfl)
  · intro e he hd
    rcases List.mem_append.1 he with he | he
    · rcases List.mem_append.1 he with he | he
      · rw [(i.conn e he).spec.1] at hd; cases hd
      · rw [(i.auth e he).spec.1] at hd; cases hd
    · exact (i.xchg e he).spec.2.2 hd

/-- **C08 (retransmission stops when a response arrives).** On an idle connection and a quiet network:
    if the peer leaves the first `k` transmissions unanswered and answers the next one within the
    read timeout with a decodable response `f`, the retry loop (any budget `n > k`) returns `f` after
    exactly `k + 1` transmissions. -/
theorem stops_when_answered (p : Params) (rx : Reactions) (frame : Bytes) (k n : Nat) (s : S) (c : Conn)
    (acc : List Bytes) (hk : k < n) (h : Ready s c) (hsil : SilentFor rx c k)
    (d : Nat) (b pkt f : Bytes) (rest : List Bytes)
    (hrx : rx c.core.cid (c.core.nWrites + k) = [(d, .data b)]) (hd : d ≤ p.readTimeout)
    (hseg : segQueue c.core.v3 c.buffer b = pkt :: rest) (hdec : decodeWith c.core.v3 c.core.localKey pkt = .ok f) :
    ∃ s', sendLoop p rx frame n s acc = (.ok (acc ++ [f]), s') ∧ nData (evsOf s') = nData (evsOf s) + (k + 1) := by
  obtain ⟨s', _, h1, h2, _⟩ := sendLoop_answered_at (p := p) (rx := rx) (frame := frame) k n s c acc hk h hsil d b pkt f rest hrx hd hseg hdec
  exact ⟨s', h1, h2⟩

/-- **C08 (exhausting the retries).** If none of the `n ≥ 1` transmissions is answered: exactly `n`
    transmissions, a timeout, and the connection is dropped. -/
theorem timeout_after_all_retries (p : Params) (rx : Reactions) (frame : Bytes) (n : Nat) (s : S) (c : Conn)
    (acc : List Bytes) (h : Ready s c) (hsil : SilentFor rx c (n + 1)) :
    ∃ s', sendLoop p rx frame (n + 1) s acc = (.error .timeout, s') ∧
      nData (evsOf s') = nData (evsOf s) + (n + 1) ∧ s'.l.conn = none :=
  sendLoop_all_silent n s c acc h hsil

/-- **C08 (device level).** `Device._send_command` turns a timeout, a protocol error and an
    authentication error into "no response" (an empty list) -/
theorem failures_become_no_response (p : Params) (rx : Reactions) (s : S) (frame : Bytes) (e : Err)
    (he : e = .timeout ∨ e = .protocol ∨ e = .auth)
    (h : (lanSend p rx s frame Generated.lanRetries).1 = .error e) : (deviceSend p rx s frame).1 = .ok [] := by
  unfold deviceSend
  generalize lanSend p rx s frame Generated.lanRetries = x at h ⊢
  obtain ⟨_, s1⟩ := x
  cases h
  rcases he with rfl | rfl | rfl <;> rfl

/-- … and a `refresh()` whose commands all got no response reports the device offline (and leaves
    every other attribute as it was) -/
theorem no_response_reported_offline (r r' : Run) (h : ∀ reply ∈ r.replies, reply = [])
    (hr : refresh r = .ok r') : r'.dev = { r.dev with online := false, supported := false } := by
  apply C13.rejected_frames_leave_state r r' _ hr
  intro reply hm f hf
  rw [h reply hm] at hf; cases hf

/-- **C08 (recovery, V2).** From EVERY state in which the connection is not alive — which is where a
    final timeout, a protocol error of the read, a peer close, a refused or a hanging connect leave
    the object (see `tx_bounds`, `failed_read_drops_connection`) — on a quiet network: if the next
    connection attempt succeeds and the device answers the first packet on it within the read
    timeout with a packet that decodes to `f`, the exchange returns exactly `[f]` after a single
    transmission; no user intervention. -/
theorem recovery_v2 (p : Params) (rx : Reactions) (s : S) (frame : Bytes) (n : Nat) (cs : List ConnOutcome)
    (hver : s.l.version ≠ 3) (hal : connAlive s = false) (hquiet : s.w.pending = []) (hnc : s.w.cancelAt = none)
    (hconn : s.w.connects = .ok :: cs)
    (d : Nat) (b f : Bytes) (hrx : rx (s.w.nConn + 1) 0 = [(d, .data b)]) (hd : d ≤ p.readTimeout)
    (hdec : packetDecode b = .ok f) :
    ∃ s', lanSend p rx s frame (n + 1) = (.ok [f], s') ∧ nData (evsOf s') = nData (evsOf s) + 1 := by
  obtain ⟨s1, tr1, hoc, he1, hz1, hs1⟩ := reconnect (p := p) hconn
  rw [decide_eq_false hver] at hs1
  obtain ⟨s', hs', hn'⟩ := sendOn_ready (p := p) (rx := rx) (s := s1) (c := { core := { cid := s.w.nConn + 1, v3 := false } })
    frame n (by subst hs1; exact ⟨rfl, rfl, rfl, hquiet, nofun, hnc⟩) (by subst hs1; simp [isV3]) hrx hd rfl hdec
  exact ⟨s', by rw [lanSend_eq, if_pos (by simp [hal]), hoc]; exact hs', by rw [hn', he1, nData_append, hz1]⟩

/-- **C08 (a failed read drops the connection).** Whatever the peer sent: if the retry loop ends in an
    error, either the connection has been dropped, or the transport had refused the write (it is
    closing / closed, or not authenticated) and the state is unchanged — in both cases the next
    exchange starts by reconnecting (`C07.lifetime_forces_new_connection`). -/
theorem failed_read_drops_connection (p : Params) (rx : Reactions) (frame : Bytes) (n : Nat) :
    ∀ (s s' : S) (acc : List Bytes) (e : Err), QOk s → (coreOf s).isSome = true →
      sendLoop p rx frame n s acc = (.error e, s') →
      s'.l.conn = none ∨ opWrite rx s' frame = .error e := by
  intro s s' acc e hq hs h
  revert h
  fun_induction sendLoop p rx frame n s acc with
  | case1 | case9 => nofun
  | case2 _ _ _ _ hw => rintro ⟨⟩; exact .inr hw
  | case3 _ _ _ _ hw _ ha _ ih => exact ih (read_contain hq hw ha).1 (read_contain hq hw ha).2.1
  | case4 | case5 | case6 | case7 => rintro ⟨⟩; exact .inl (conn_opDisconnect _)
  | case8 _ _ _ _ hw _ _ ha e hne _ hd => exact absurd ((read_contain hq hw ha).2.2 _ _ rfl hd) hne

/-- **C08 (recovery, V3, abstract peer).** From EVERY state whose connection is not alive, on a quiet
    network, with stored credentials and a connect that succeeds: if the peer answers the handshake
    request with one packet whose payload yields a session key, and the following data request with
    one packet that decodes under that key, the exchange reconnects, authenticates first and returns
    exactly the peer's response after a single data transmission. -/
theorem recovery_v3 {p : Params} {rx : Reactions} {s : S} (frame : Bytes) (n : Nat) (cs : List ConnOutcome)
    (tok key : Bytes) (hver : s.l.version = 3) (hal : connAlive s = false) (hquiet : s.w.pending = [])
    (hnc : s.w.cancelAt = none)
    (hconn : s.w.connects = .ok :: cs) (hexp : FreshExpiryOk s)
    (htok : s.l.token = some tok) (hkey : s.l.key = some key)
    (htok' : tok.isEmpty = false ∧ tok.length < 65536) (hkey' : key.isEmpty = false)
    (d0 : Nat) (b0 reply payload lk : Bytes) (hrx0 : rx (s.w.nConn + 1) 0 = [(d0, .data b0)]) (hd0 : d0 ≤ p.readTimeout)
    (hparse0 : parseLoop b0 = ([reply], [])) (hproc : processPacket none reply = .ok payload)
    (hlk : getLocalKey key payload = .ok lk)
    (d1 : Nat) (b1 pkt f : Bytes) (hrx1 : rx (s.w.nConn + 1) 1 = [(d1, .data b1)]) (hd1 : d1 ≤ p.readTimeout)
    (hparse1 : parseLoop b1 = ([pkt], [])) (hdec : decodeWith true (some lk) pkt = .ok f) :
    ∃ s', lanSend p rx s frame (n + 1) = (.ok [f], s') ∧ nData (evsOf s') = nData (evsOf s) + 1 ∧
      ∃ tr, evsOf s' = evsOf s ++ tr ∧ .accept (s.w.nConn + 1) lk ∈ tr := by
  obtain ⟨s1, tr1, hoc, he1, hz1, hs1⟩ := reconnect (p := p) hconn
  rw [decide_eq_true hver] at hs1
  have hal1 : connAlive s1 = true := by
    subst hs1
    cases he : newExpiry s with
    | none => simp [connAlive]
    | some e => simpa [connAlive, he] using hexp e he
  obtain ⟨s', hs', hn', tr, htr, hacc⟩ := sendOn_reauth (p := p) (rx := rx) (s := s1)
    (c := { core := { cid := s.w.nConn + 1, v3 := true } }) frame n (by rw [hs1]) rfl rfl hal1 (by subst hs1; rfl)
    (by rw [hs1]; exact hquiet) (by rw [hs1]; exact hnc) rfl (by rw [hs1]; exact htok) (by rw [hs1]; exact hkey) htok' hkey'
    hrx0 hd0 hparse0 hproc hlk hrx1 hd1 hparse1 hdec
  exact ⟨s', by rw [lanSend_eq, if_pos (by simp [hal]), hoc]; exact hs', by rw [hn', he1, nData_append, hz1],
    tr1 ++ tr, by rw [htr, he1, List.append_assoc], List.mem_append_right _ hacc⟩

/-- **C08 (recovery, V3, same connection).** After a failed handshake that left the connection open, or
    once the 12 h authentication lifetime has elapsed on a live connection: the next exchange
    handshakes on the same connection and returns the peer's response after one data transmission. -/
theorem recovery_v3_same_connection {p : Params} {rx : Reactions} {s : S} {c : Conn} (frame : Bytes) (n : Nat)
    (tok key : Bytes) (hc : s.l.conn = some c) (hcl : c.closing = false) (hv : c.core.v3 = true)
    (hal : connAlive s = true) (hna : authenticated s = false) (hquiet : s.w.pending = [])
    (hnc : s.w.cancelAt = none) (hbuf : c.buffer = [])
    (htok : s.l.token = some tok) (hkey : s.l.key = some key)
    (htok' : tok.isEmpty = false ∧ tok.length < 65536) (hkey' : key.isEmpty = false)
    (d0 : Nat) (b0 reply payload lk : Bytes) (hrx0 : rx c.core.cid c.core.nWrites = [(d0, .data b0)])
    (hd0 : d0 ≤ p.readTimeout) (hparse0 : parseLoop b0 = ([reply], [])) (hproc : processPacket none reply = .ok payload)
    (hlk : getLocalKey key payload = .ok lk)
    (d1 : Nat) (b1 pkt f : Bytes) (hrx1 : rx c.core.cid (c.core.nWrites + 1) = [(d1, .data b1)]) (hd1 : d1 ≤ p.readTimeout)
    (hparse1 : parseLoop b1 = ([pkt], [])) (hdec : decodeWith true (some lk) pkt = .ok f) :
    ∃ s', lanSend p rx s frame (n + 1) = (.ok [f], s') ∧ nData (evsOf s') = nData (evsOf s) + 1 ∧
      ∃ tr, evsOf s' = evsOf s ++ tr ∧ .accept c.core.cid lk ∈ tr := by
  rw [lanSend_eq, if_neg (by simp [hal])]
  exact sendOn_reauth frame n hc hcl hv hal hna hquiet hnc hbuf htok hkey htok' hkey' hrx0 hd0 hparse0 hproc hlk hrx1 hd1
    hparse1 hdec

theorem handshakeReply_wf (key nonce : Bytes) (hn : nonce.length = 32) (ctr : Nat) :
    C04.WfPacket (Spec.V3.handshakeReply key nonce ctr) := by
  unfold Spec.V3.handshakeReply
  rw [List.append_assoc, List.append_assoc]
  exact C01.wf_of_header 64 0 1 _ (by decide)
    (by simp [Spec.V3.be16, Crypto.AES.cbcEncrypt_length, Crypto.SHA256.sha256_length, hn])

/-- **C08 (recovery, V3, honest device).** The same with the peer instantiated by the independent
    device specification: the device answers the handshake request with `Spec.V3.handshakeReply` for
    the stored key and a fresh 32-byte nonce, and the data request with its response frame in a V2
    packet encrypted under the session key `nonce XOR key`, each in one TCP segment within the read
    timeout.  Then — from ANY state with a dead connection — `LAN.send` returns exactly the device's
    frame.  (Composition of C02, C04, C05, C06 with the Session model.) -/
theorem recovery_v3_honest_device {p : Params} {rx : Reactions} {s : S} (frame : Bytes) (n : Nat) (cs : List ConnOutcome)
    (tok key nonce : Bytes) (hver : s.l.version = 3) (hal : connAlive s = false) (hquiet : s.w.pending = [])
    (hnc : s.w.cancelAt = none) (hconn : s.w.connects = .ok :: cs) (hexp : FreshExpiryOk s)
    (htok : s.l.token = some tok) (hkey : s.l.key = some key)
    (htok' : tok.isEmpty = false ∧ tok.length < 65536) (hk32 : key.length = 32) (hn32 : nonce.length = 32)
    (d0 ctr0 : Nat) (hd0 : d0 ≤ p.readTimeout)
    (hrx0 : rx (s.w.nConn + 1) 0 = [(d0, .data (Spec.V3.handshakeReply key nonce ctr0))])
    (d1 ctr1 id : Nat) (ts filler padBytes resp : Bytes) (hd1 : d1 ≤ p.readTimeout)
    (hts : ts.length = 8) (hfl : filler.length = 12) (hresp : resp.length ≤ 255)
    (hpl : padBytes.length = Spec.V3.padOf (Spec.V2.encode id ts filler resp).length)
    (hrx1 : rx (s.w.nConn + 1) 1 = [(d1, .data (Spec.V3.encodeEncrypted (Spec.V3.sessionKey key nonce) 3 ctr1
        (Spec.V2.encode id ts filler resp) padBytes))]) :
    ∃ s', lanSend p rx s frame (n + 1) = (.ok [resp], s') ∧ nData (evsOf s') = nData (evsOf s) + 1 := by
  obtain ⟨hparse1, hproc1, hdec1⟩ := C01.v3_reply_chain resp hresp id ts filler (Spec.V3.sessionKey key nonce) padBytes ctr1
    hts hfl hpl
  obtain ⟨payload, hproc, hlk⟩ := C06.handshake_agreement key nonce hn32 hk32 ctr0 none
  have hkne : key.isEmpty = false := List.isEmpty_eq_false_iff.2 (List.ne_nil_of_length_pos (by rw [hk32]; decide))
  have hparse0 := C04.parseLoop_packet (handshakeReply_wf key nonce hn32 ctr0)
  have hdec : decodeWith true (some (Spec.V3.sessionKey key nonce))
      (Spec.V3.encodeEncrypted (Spec.V3.sessionKey key nonce) 3 ctr1 (Spec.V2.encode id ts filler resp) padBytes) = .ok resp := by
    rw [decodeWith, if_pos rfl, hproc1]
    exact hdec1
  obtain ⟨s', h1, h2, _⟩ := recovery_v3 (p := p) (rx := rx) (s := s) frame n cs tok key hver hal hquiet hnc hconn hexp htok hkey htok' hkne
    d0 _ _ payload _ hrx0 hd0 hparse0 hproc hlk d1 _ _ resp hrx1 hd1 hparse1 hdec
  exact ⟨s', h1, h2⟩

/-- **C08 (cancellation).** If the caller cancels a `send` while it waits for the response (the read is
    cancelled), the call ends as a timeout and the connection has been dropped — so the next exchange
    reconnects (and, on V3, re-authenticates: `C07.lifetime_forces_new_connection`) -/
theorem cancelled_read_drops_connection (p : Params) (rx : Reactions) (frame : Bytes) (n : Nat) (s s1 s2 : S)
    (acc : List Bytes) (hw : opWrite rx s frame = .ok s1)
    (ha : awaitQueue (s1.w.pending.length + 1) s1 (s1.w.now + p.readTimeout) = (.cancelled, s2)) :
    sendLoop p rx frame (n + 1) s acc = (.error .timeout, opDisconnect s2) ∧ (opDisconnect s2).l.conn = none := by
  refine ⟨?_, conn_opDisconnect s2⟩
  unfold sendLoop
  rw [hw]; simp only
  rw [ha]

/-! ### where the faults of the alphabet lead: settled states -/

/-- operations of a history against a gentle peer: exchanges with any retry budget, explicit
    authentications with a token that fits the size field, clock jumps, lifetime changes -/
def PlainOp : Op → Prop
  | .send _ => True
  | .sendN _ _ => True
  | .authenticate t _ => t.length < 65536
  | .advance _ => True
  | .setMaxLifetime _ => True
  | _ => False

def TokOk (s : S) : Prop := ∀ t, s.l.token = some t → t.length < 65536

theorem step_settled (p : Params) (rx : Reactions) (hg : Gentle p rx) (s : S) (op : Op) (hs : Settled s) (ht : TokOk s)
    (hop : PlainOp op) : Settled (step p rx s op).2 ∧ TokOk (step p rx s op).2 := by
  have hk : Keeps true op := by
    cases op with
    | sendCancelled | authCancelled => exact hop
    | _ => trivial
  refine ⟨settledV_true.1 ((settledV_true.2 hs).step hg.gentleV hk), ?_⟩
  -- the stored token is the old one, or the one just given to `authenticate`
  have keep : ∀ {s' : S}, creds s' = creds s → TokOk s' := fun h t h' =>
    ht t ((show s.l.token = _ from (congrArg Prod.fst h).symm).trans h')
  cases op with
  | send f => rw [step, outcomeOfSend_snd]; exact keep (creds_lanSend rfl)
  | sendN f n => rw [step, outcomeOfSend_snd]; exact keep (creds_lanSend rfl)
  | authenticate t k =>
    rw [step, outcomeOfAuth_snd]
    rcases creds_lanAuthenticate (p := p) (rx := rx) (s := s) (token := some t) (key := some k)
      (n := Generated.lanRetries) rfl with ⟨_, hc⟩ | ⟨_, hc⟩
    · intro x hx
      cases (show some t = _ from (congrArg Prod.fst hc).symm).trans hx
      exact hop
    · exact keep hc
  | advance ms => exact keep (creds_pump _ _)
  | setMaxLifetime m => exact ht
  | sendCancelled f ms => exact hop.elim
  | authCancelled t k ms => exact hop.elim

/-- **C08 (faults leave nothing behind).** Against a gentle peer — every reaction to a write is nothing
    (drop), or one prompt event: a close, or a segment holding exactly one packet of ANY content (a
    response, an error packet, garbage) — and for any outcomes of the connection attempts (refused,
    hanging), every history of exchanges, authentications and clock jumps from a settled V3 session ends
    in a settled session: nothing pending on the network, nothing queued or buffered on an open
    connection.  (Induction over histories of any length.) -/
theorem faults_leave_settled (p : Params) (rx : Reactions) (hg : Gentle p rx) (ops : List Op) :
    ∀ s, Settled s → TokOk s → (∀ op ∈ ops, PlainOp op) →
      Settled (run p rx s ops).2 ∧ TokOk (run p rx s ops).2 := by
  intro s hs ht hops
  exact (run_inv (P := fun s => Settled s ∧ TokOk s) (Q := fun _ => True) p rx ops
    (fun s op ho h => ⟨trivial, step_settled p rx hg s op h.1 h.2 (hops op ho)⟩) s ⟨hs, ht⟩).2

/-- **C08 (a settled session is recoverable).** A settled V3 session is in exactly one of three
    situations, and each has its recovery theorem: the connection is dead (`recovery_v3`,
    `recovery_v3_honest_device`); it is alive but not authenticated (`recovery_v3_same_connection`); it is
    alive, authenticated and idle (`exchange_on_idle_session`). -/
theorem settled_is_recoverable {s : S} (hs : Settled s) :
    connAlive s = false ∨
    (∃ c, s.l.conn = some c ∧ c.closing = false ∧ c.core.v3 = true ∧ c.queue = [] ∧ c.buffer = [] ∧
        connAlive s = true ∧ authenticated s = false) ∨
    (∃ c, Ready s c ∧ c.buffer = [] ∧ connAlive s = true ∧ authenticated s = true) := by
  cases hal : connAlive s with
  | false => exact .inl rfl
  | true =>
    obtain ⟨c, hc, hv, hcl, hq, hb⟩ := (settledV_true.2 hs).alive hal
    cases hau : authenticated s with
    | false => exact .inr (.inl ⟨c, hc, hcl, hv, hq, hb rfl, rfl, rfl⟩)
    | true =>
      refine .inr (.inr ⟨c, ⟨hc, hcl, hq, hs.quiet, fun _ => ?_, hs.unarmed⟩, hb rfl, rfl, rfl⟩)
      cases hk : c.core.localKey with
      | none => simp [authenticated, hc, hk] at hau
      | some k => exact ⟨k, rfl⟩

theorem exchange_on_idle_session {p : Params} {rx : Reactions} {s : S} {c : Conn} (frame : Bytes) (n : Nat)
    (hr : Ready s c) (hal : connAlive s = true) (hauth : isV3 s = true → authenticated s = true)
    (d : Nat) (b pkt f : Bytes) (hrx : rx c.core.cid c.core.nWrites = [(d, .data b)]) (hd : d ≤ p.readTimeout)
    (hseg : segQueue c.core.v3 c.buffer b = [pkt]) (hdec : decodeWith c.core.v3 c.core.localKey pkt = .ok f) :
    ∃ s', lanSend p rx s frame (n + 1) = (.ok [f], s') ∧ nData (evsOf s') = nData (evsOf s) + 1 := by
  rw [lanSend_eq, if_neg (by simp [hal])]
  exact sendOn_ready frame n hr hauth hrx hd hseg hdec

/-! ### V2 sessions: histories of faults, then recovery -/

/-- operations of a V2 history: exchanges with any retry budget, clock jumps, lifetime changes -/
def PlainOp2 : Op → Prop
  | .send _ => True
  | .sendN _ _ => True
  | .advance _ => True
  | .setMaxLifetime _ => True
  | _ => False

/-- **C08 (V2: faults leave nothing behind).** Any history of exchanges, clock jumps and lifetime changes
    on a V2 session, against a peer that reacts to each write with nothing or with ONE prompt event of
    any kind — an answer, an error packet, garbage, a close — and with any connect outcomes (success,
    refusal, hang), ends in a settled session.  (Induction over histories of any length.) -/
theorem faults_leave_settled_v2 (p : Params) (rx : Reactions) (hg : Gentle2 p rx) (ops : List Op) :
    ∀ s, Settled2 s → (∀ op ∈ ops, PlainOp2 op) → Settled2 (run p rx s ops).2 := by
  intro s hs hops
  have hk : ∀ op ∈ ops, Keeps false op := by
    intro op ho
    have := hops op ho
    cases op with
    | send | sendN | advance | setMaxLifetime => trivial
    | _ => exact this.elim
  exact settledV_false.1 (run_inv (Q := fun _ => True) p rx ops (fun s op ho h => ⟨trivial, h.step hg.gentleV (hk op ho)⟩)
    s (settledV_false.2 hs)).2

/-- where the next transmission will go: the live connection's next write, or the first write of the
    connection that has to be opened -/
def nextWrite (s : S) : Nat × Nat :=
  match s.l.conn with
  | some c => if connAlive s then (c.core.cid, c.core.nWrites) else (s.w.nConn + 1, 0)
  | none => (s.w.nConn + 1, 0)

/-- **C08 (V2: the next exchange after any faults succeeds).** After ANY such history of faults, with no
    user intervention: if the connection attempt the next exchange may need succeeds and the device
    answers the next transmission within the read timeout with a packet that decodes to `f`, `LAN.send`
    returns exactly `[f]` after that single transmission. -/
theorem recovery_after_faults_v2 (p : Params) (rx : Reactions) (hg : Gentle2 p rx) (ops : List Op) (s0 : S)
    (hs0 : Settled2 s0) (hops : ∀ op ∈ ops, PlainOp2 op) (frame : Bytes) (n : Nat) (d : Nat) (b f : Bytes)
    (hconn : connAlive (run p rx s0 ops).2 = false → ∃ cs, (run p rx s0 ops).2.w.connects = .ok :: cs)
    (hrx : rx (nextWrite (run p rx s0 ops).2).1 (nextWrite (run p rx s0 ops).2).2 = [(d, .data b)])
    (hd : d ≤ p.readTimeout) (hdec : packetDecode b = .ok f) :
    ∃ s', lanSend p rx (run p rx s0 ops).2 frame (n + 1) = (.ok [f], s') ∧
      nData (evsOf s') = nData (evsOf (run p rx s0 ops).2) + 1 := by
  have hs := faults_leave_settled_v2 p rx hg ops s0 hs0 hops
  generalize (run p rx s0 ops).2 = s at hs hconn hrx
  -- the two situations a settled V2 session can be in: dead connection, or live and idle
  cases hal : connAlive s with
  | false =>
    obtain ⟨cs, hcs⟩ := hconn hal
    have hnw : nextWrite s = (s.w.nConn + 1, 0) := by
      unfold nextWrite
      cases hc : s.l.conn with
      | none => rfl
      | some c => simp [hal]
    rw [hnw] at hrx
    exact recovery_v2 p rx s frame n cs hs.ver hal hs.quiet hs.unarmed hcs d b f hrx hd hdec
  | true =>
    obtain ⟨c, hc, hv, hcl, hq, _⟩ := (settledV_false.2 hs).alive hal
    have hnw : nextWrite s = (c.core.cid, c.core.nWrites) := by
      unfold nextWrite; rw [hc]; simp [hal]
    rw [hnw] at hrx
    exact exchange_on_idle_session frame n ⟨hc, hcl, hq, hs.quiet, by simp [hv], hs.unarmed⟩ hal
      (by intro h; simp [isV3, hc, hv] at h) d b b f hrx hd (by simp [segQueue, hv]) (by simp [decodeWith, hv, hdec])

/-- a fresh V2 `LAN` object is settled -/
theorem settled_v2_fresh (s : S) (h1 : s.w.pending = []) (h2 : s.w.cancelAt = none) (h3 : s.l.version ≠ 3)
    (h4 : s.l.conn = none) : Settled2 s :=
  ⟨h1, h2, h3, by intro c hc; rw [h4] at hc; cases hc⟩

example : Settled2 ({} : S) := settled_v2_fresh _ rfl rfl (by decide) rfl

/-! non-vacuity: a ready state exists and a one-packet V2 answer is a `segQueue` of one item -/
example : Ready { l := { conn := some { core := { cid := 1, v3 := false } } } } { core := { cid := 1, v3 := false } } :=
  ⟨rfl, rfl, rfl, rfl, (by intro h; cases h), rfl⟩
example : segQueue false [] [1, 2, 3] = [[1, 2, 3]] := rfl

end Msmart.Props.C08
