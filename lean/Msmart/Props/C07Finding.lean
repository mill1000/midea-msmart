/-
  C07 — known finding D13 (a late handshake reply is taken as the answer to the next handshake request): the witness history,
  evaluated in the Session model by the kernel.  The same history is replayed on the implementation by the C07 check
  (stream `late_handshake_reply`), which reports it as KNOWN-FINDING.
-/
import Msmart.Props.C07Session
open Msmart.Model.Session

namespace Msmart.Props.C07

def wKey : Bytes := List.replicate 32 0x11
def wToken : Bytes := List.replicate 64 0x22
def wNonce1 : Bytes := List.replicate 32 0x33
def wNonce2 : Bytes := List.replicate 32 0x44
def wFrame : Bytes := [0xAA, 0x01, 0x02]
/-- a unit that answers every handshake request 2.137 s late (137 ms after the client's read timed out), with a fresh nonce -/
def wRx : Reactions := fun cid idx =>
  if cid = 1 ∧ idx = 0 then [(2137, .data (Spec.V3.handshakeReply wKey wNonce1 0))]
  else if cid = 1 ∧ idx = 1 then [(2137, .data (Spec.V3.handshakeReply wKey wNonce2 1))]
  else []

def wLog : List Ev := ((run {} wRx { w := { connects := [.ok, .ok, .ok] }, l := {} }
    [.authenticate wToken wKey, .send wFrame]).2.w.log).map Prod.snd

/-- **C07 — known finding D13, witness in the model.**  A unit that answers handshake requests 137 ms after the client's
    read has timed out: `authenticate` writes handshake request 0, times out, writes request 1, and then ACCEPTS the reply
    to request 0; the data packet of the following `send` is encrypted under the key of handshake 0, while the unit - which
    replaced its key when it answered request 1 - holds the key of handshake 1.  (The theorem `data_under_latest_handshake_key`
    is about the key the client ACCEPTED last; this is the history in which that is not the key of the latest handshake.) -/
theorem late_handshake_reply_witness :
    wLog = [.connect 1 true, .forget 1, .wrHS 1 0 wToken, .forget 1, .wrHS 1 1 wToken,
            .accept 1 (Spec.V3.sessionKey wKey wNonce1), .wrData 1 2 (Spec.V3.sessionKey wKey wNonce1) wFrame, .closed 1]
    ∧ Spec.V3.sessionKey wKey wNonce1 ≠ Spec.V3.sessionKey wKey wNonce2 := by decide +kernel

end Msmart.Props.C07
