/-
  C07 — V3 session discipline: no data before handshake, right key, bounded counter, expiry.

  Stated over the Session model (`Model/Session.lean`: `LAN` + `_LanProtocolV3` as a discrete-event
  simulation; the peer is an ARBITRARY reaction function, connection attempts have arbitrary
  outcomes, the clock jumps arbitrarily) and proved for histories of ANY length by refinement:
  every operation of the model is a run of the abstract connection automaton
  (`Lemmas/SessionTrace.lean`), and every run of the automaton preserves the invariant
  (`Lemmas/SessionAbs.lean`).  The write log is structural (kind, connection, counter, key, token,
  frame); that the bytes on the wire carry exactly these is C05 (`request_eq_spec`,
  `v3_spec_decodes_request`).
-/
import Msmart.Lemmas.SessionTrace

namespace Msmart.Props.C07
open Msmart.Model.Session Msmart.Lemmas.Sess

/-- a fresh `LAN` object: nothing logged, no connection (any scripted environment, any version) -/
def Fresh (s : S) : Prop := s.w.log = [] ∧ s.w.nConn = 0 ∧ s.l.conn = none

theorem inv_fresh {s : S} (h : Fresh s) : Inv (abs s) := by
  obtain ⟨h1, h2, h3⟩ := h
  refine ⟨?_, ?_, ?_, ?_⟩ <;> simp [abs, evsOf, coreOf, h1, h3, wf_nil]

/-- **C07 (refinement + invariant).** After ANY history (any operations, any peer reactions, any
    connection outcomes, any clock jumps) the session state satisfies the automaton invariant. -/
theorem session_invariant (p : Params) (rx : Reactions) (ops : List Op) (s : S) (h : Inv (abs s)) :
    Inv (abs (run p rx s ops).2) := by
  obtain ⟨tr, htr⟩ := run_tr p rx ops s
  exact h.run htr

/-- the structural write log after a history -/
def logAfter (p : Params) (rx : Reactions) (s : S) (ops : List Op) : List Ev := evsOf (run p rx s ops).2

theorem log_wf (p : Params) (rx : Reactions) (ops : List Op) (s : S) (h : Fresh s) :
    WF (logAfter p rx s ops) := (session_invariant p rx ops s (inv_fresh h)).wf

/-- **C07 (no data before a handshake; right key).** In every history: an encrypted request is only
    ever written on a connection on which a handshake reply was accepted earlier, and it is encrypted
    under the session key of the LATEST handshake accepted on that same connection; the connection
    was opened earlier in the history and not closed since. -/
theorem data_under_latest_handshake_key (p : Params) (rx : Reactions) (ops : List Op) (s : S) (h : Fresh s)
    (pre post : List Ev) (cid ctr : Nat) (k f : Bytes)
    (hlog : logAfter p rx s ops = pre ++ [.wrData cid ctr k f] ++ post) :
    lastAccept cid pre = some k ∧ (∃ v3, .connect cid v3 ∈ pre) ∧ .closed cid ∉ pre := by
  have := log_wf p rx ops s h pre _ post hlog
  exact ⟨this.1, this.2.2.1, this.2.2.2⟩

theorem keyStep_eq_some {cid : Nat} {k0 : Option Bytes} {e : Ev} {k : Bytes} (h : keyStep cid k0 e = some k) :
    k0 = some k ∨ e = .accept cid k := by
  unfold keyStep at h
  split at h
  · split at h
    · rename_i hc; cases h; exact .inr (hc ▸ rfl)
    · exact .inl h
  · split at h
    · cases h
    · exact .inl h
  · exact .inl h

theorem foldl_keyStep_mem {cid : Nat} (l : List Ev) (k0 : Option Bytes) {k : Bytes}
    (h : l.foldl (keyStep cid) k0 = some k) : k0 = some k ∨ .accept cid k ∈ l := by
  induction l generalizing k0 with
  | nil => exact .inl h
  | cons e t ih =>
    rcases ih _ h with h1 | h1
    · rcases keyStep_eq_some h1 with h0 | rfl
      · exact .inl h0
      · exact .inr (List.mem_cons_self ..)
    · exact .inr (List.mem_cons_of_mem _ h1)

theorem lastAccept_some_mem {cid : Nat} {l : List Ev} {k : Bytes} (h : lastAccept cid l = some k) : .accept cid k ∈ l :=
  (foldl_keyStep_mem l none h).resolve_left nofun

/-- the handshake whose key a data packet uses is the LATEST handshake started on the connection: no
    later handshake attempt (successful or not) lies between that acceptance and the data packet -/
theorem lastAccept_no_later_forget {cid : Nat} (l1 l2 : List Ev) {k : Bytes}
    (h : lastAccept cid (l1 ++ [.forget cid] ++ l2) = some k) : .accept cid k ∈ l2 := by
  unfold lastAccept at h
  rw [List.foldl_append, List.foldl_append] at h
  simp only [List.foldl_cons, List.foldl_nil, keyStep, if_true] at h
  exact (foldl_keyStep_mem l2 none h).resolve_left nofun

/-- in particular an accepted handshake reply precedes every encrypted request on its connection -/
theorem handshake_precedes_data (p : Params) (rx : Reactions) (ops : List Op) (s : S) (h : Fresh s)
    (pre post : List Ev) (cid ctr : Nat) (k f : Bytes)
    (hlog : logAfter p rx s ops = pre ++ [.wrData cid ctr k f] ++ post) : .accept cid k ∈ pre :=
  lastAccept_some_mem (data_under_latest_handshake_key p rx ops s h pre post cid ctr k f hlog).1

/-- **C07 (no data after a failed handshake).** If a handshake was started on the connection (the
    previous key is forgotten at that moment) before an encrypted request, then a handshake reply was
    accepted AFTER that start: once a re-handshake has been attempted, the old key is never used again —
    whether the attempt failed by timeout, error packet, a reply that does not verify, or cancellation. -/
theorem no_data_after_failed_handshake (p : Params) (rx : Reactions) (ops : List Op) (s : S) (h : Fresh s)
    (l1 l2 post : List Ev) (cid ctr : Nat) (k f : Bytes)
    (hlog : logAfter p rx s ops = l1 ++ [.forget cid] ++ l2 ++ [.wrData cid ctr k f] ++ post) :
    .accept cid k ∈ l2 :=
  lastAccept_no_later_forget l1 l2 (data_under_latest_handshake_key p rx ops s h _ post cid ctr k f hlog).1

/-- **C07 (counter).** In every history, of any length: each V3 packet (handshake request or encrypted
    request) carries as its counter the number of V3 packets written earlier on the same connection,
    modulo 4096 — i.e. 0 for the first packet of a connection and the previous counter plus one,
    wrapping to zero, for every later one; no bound on the number of packets. -/
theorem counter_is_packet_index (p : Params) (rx : Reactions) (ops : List Op) (s : S) (h : Fresh s)
    (pre post : List Ev) (e : Ev) (hlog : logAfter p rx s ops = pre ++ [e] ++ post) :
    (∀ cid ctr k f, e = .wrData cid ctr k f → ctr = nPackets cid pre % 4096) ∧
    (∀ cid ctr tok, e = .wrHS cid ctr tok → ctr = nPackets cid pre % 4096) := by
  have := log_wf p rx ops s h pre e post hlog
  refine ⟨?_, ?_⟩
  · intro cid ctr k f he; subst he; exact this.2.1
  · intro cid ctr tok he; subst he; exact this.1

def pktCid : Ev → Option Nat
  | .wrHS c _ _ => some c | .wrData c _ _ _ => some c | _ => none
def pktCtr : Ev → Nat
  | .wrHS _ c _ => c | .wrData _ c _ _ => c | _ => 0

theorem nPackets_singleton (cid : Nat) (e : Ev) : nPackets cid [e] = if pktCid e = some cid then 1 else 0 := by
  cases e <;> simp [nPackets, pktCid]

theorem nPackets_skip (cid : Nat) (mid : List Ev) (h : ∀ x ∈ mid, pktCid x ≠ some cid) : nPackets cid mid = 0 :=
  nPackets_eq_zero fun x hx => by rw [nPackets_singleton, if_neg (h x hx)]

theorem pkt_ok {pre : List Ev} {e : Ev} {cid : Nat} (h : pktCid e = some cid) (w : EvOk pre e) :
    pktCtr e = nPackets cid pre % 4096 ∧ nPackets cid [e] = 1 := by
  refine ⟨?_, by rw [nPackets_singleton, if_pos h]⟩
  cases e <;> cases h
  · exact w.1
  · exact w.2.1

/-- the same in "previous plus one" form: two consecutive V3 packets of one connection -/
theorem counter_step (p : Params) (rx : Reactions) (ops : List Op) (s : S) (h : Fresh s)
    (pre mid post : List Ev) (e1 e2 : Ev) (cid : Nat)
    (h1 : pktCid e1 = some cid) (h2 : pktCid e2 = some cid) (hmid : ∀ x ∈ mid, pktCid x ≠ some cid)
    (hlog : logAfter p rx s ops = pre ++ [e1] ++ mid ++ [e2] ++ post) :
    pktCtr e2 = (pktCtr e1 + 1) % 4096 := by
  have w := log_wf p rx ops s h
  obtain ⟨c1, n1⟩ := pkt_ok h1 (w pre e1 (mid ++ [e2] ++ post) (by rw [hlog]; simp only [List.append_assoc]))
  obtain ⟨c2, _⟩ := pkt_ok h2 (w _ e2 post hlog)
  rw [c2, c1, nPackets_append, nPackets_append, n1, nPackets_skip cid mid hmid, Nat.mod_add_mod]

/-- the first V3 packet on a connection carries counter 0 -/
theorem counter_starts_at_zero (p : Params) (rx : Reactions) (ops : List Op) (s : S) (h : Fresh s)
    (pre post : List Ev) (e : Ev) (cid : Nat) (h1 : pktCid e = some cid) (hpre : ∀ x ∈ pre, pktCid x ≠ some cid)
    (hlog : logAfter p rx s ops = pre ++ [e] ++ post) : pktCtr e = 0 := by
  rw [(pkt_ok h1 (log_wf p rx ops s h pre e post hlog)).1, nPackets_skip cid pre hpre]

/-! ### "on a V3 device": after the first `authenticate` nothing but V3 traffic is ever written -/

theorem v3inv_after_authenticate (p : Params) (rx : Reactions) (s : S) (hs : s.l.conn = none) (t k : Bytes) :
    V3Inv (abs (step p rx s (.authenticate t k)).2) := by
  obtain ⟨tc, ta, _, i⟩ := lanAuthenticate_tr (p := p) (rx := rx) (s := s)
    (token := some t) (key := some k) (n := Generated.lanRetries) rfl
  rw [step, outcomeOfAuth_snd]
  exact (V3Inv.run ⟨rfl, by simp [abs, coreOf, setVersion3, hs]⟩ (i.run_of_none hs)).1

/-- **C07 (V3 only).** In a history that starts with `authenticate` (which is how a `LAN` learns that
    its device is V3), whatever happens afterwards: every connection is opened as a V3 connection
    and no unencrypted V2 packet is ever written. -/
theorem v3_traffic_only (p : Params) (rx : Reactions) (s : S) (h : Fresh s) (t k : Bytes) (ops : List Op) :
    ∀ e ∈ logAfter p rx s (.authenticate t k :: ops),
      (∀ cid f, e ≠ .wrV2 cid f) ∧ (∀ cid v3, e = .connect cid v3 → v3 = true) := by
  -- first step: from the fresh state, with the version set
  obtain ⟨tc, ta, _, i⟩ := lanAuthenticate_tr (p := p) (rx := rx) (s := s)
    (token := some t) (key := some k) (n := Generated.lanRetries) rfl
  obtain ⟨tr2, g3⟩ := run_tr p rx ops (lanAuthenticate p rx s (some t) (some k) Generated.lanRetries).2
  have hrun := (i.run_of_none h.2.2).trans g3
  have hlog : logAfter p rx s (.authenticate t k :: ops) = tc ++ ta ++ tr2 := by
    have := A.Run.evs hrun
    simp only [abs, show evsOf (setVersion3 s) = [] by simp [evsOf, setVersion3, h.1]] at this
    simpa [logAfter, run, step, outcomeOfAuth_snd] using this
  rw [hlog]
  exact (V3Inv.run ⟨rfl, by simp [abs, coreOf, setVersion3, h.2.2]⟩ hrun).2

/-! ### the handshake request carries the configured token -/

/-- **C07 (token, explicit authenticate).** Every handshake request written by `authenticate(t, k)`
    carries `t`; and nothing but handshake requests is written by it. -/
theorem authenticate_writes_only_handshakes_with_token (p : Params) (rx : Reactions) (s s' : S) (t k : Bytes)
    (o : Outcome) (h : step p rx s (.authenticate t k) = (o, s')) :
    ∃ tr, evsOf s' = evsOf s ++ tr ∧ (∀ e ∈ tr, isData e = false) ∧
      (∀ cid ctr tok, .wrHS cid ctr tok ∈ tr → tok = t) := by
  have hs' : s' = (lanAuthenticate p rx s (some t) (some k) Generated.lanRetries).2 := by
    rw [← outcomeOfAuth_snd]; exact (congrArg Prod.snd h).symm
  obtain ⟨tc, ta, _, i⟩ := lanAuthenticate_tr (p := p) (rx := rx) (s := s) (token := some t)
    (key := some k) (n := Generated.lanRetries) rfl
  refine ⟨tc ++ ta, hs' ▸ i.run.evs,
    List.forall_mem_append.2 ⟨fun e he => (i.conn e he).spec.1, fun e he => (i.auth e he).spec.1⟩, ?_⟩
  intro cid ctr tok he
  rcases List.mem_append.1 he with he | he
  · cases (i.conn _ he).spec.2
  · simpa [pickCred] using ((i.auth _ he).spec.2.2 _ _ _ rfl).symm

/-- **C07 (token, implicit).** Every handshake request written by a `send` (after a reconnect or an
    expiry) carries the stored token, and `send` never changes the stored credentials. -/
theorem send_handshakes_carry_stored_token (p : Params) (rx : Reactions) (s s' : S) (f : Bytes) (n : Nat)
    (r : R (List Bytes)) (h : lanSend p rx s f n = (r, s')) :
    creds s' = creds s ∧
    ∃ tr, evsOf s' = evsOf s ++ tr ∧ (∀ cid ctr tok, .wrHS cid ctr tok ∈ tr → s.l.token = some tok) := by
  refine ⟨creds_lanSend h, ?_⟩
  obtain ⟨tc, ta, te, i, _⟩ := lanSend_tr h
  refine ⟨tc ++ ta ++ te, i.path.evs, ?_⟩
  intro cid ctr tok he
  rcases List.mem_append.1 he with he | he
  · rcases List.mem_append.1 he with he | he
    · cases (i.conn _ he).spec.2
    · exact (i.auth _ he).spec.2.2 _ _ _ rfl
  · cases (i.xchg _ he).spec.2.1

/-- … so the stored credentials are exactly those of the last successful `authenticate`: it stores the
    pair it was given when it succeeds and leaves the stored one alone when it fails -/
theorem stored_credentials (p : Params) (rx : Reactions) (s : S) (t k : Bytes) :
    let r := step p rx s (.authenticate t k)
    (r.1 = .done ∧ creds r.2 = (some t, some k)) ∨ (r.1 ≠ .done ∧ creds r.2 = creds s) := by
  simp only [step]
  cases hl : lanAuthenticate p rx s (some t) (some k) Generated.lanRetries with
  | mk r s1 =>
    rcases creds_lanAuthenticate hl with ⟨rfl, hc⟩ | ⟨⟨e, rfl⟩, hc⟩
    · exact .inl ⟨rfl, by simpa [outcomeOfAuth, pickCred] using hc⟩
    · exact .inr ⟨by simp [outcomeOfAuth], by simpa [outcomeOfAuth] using hc⟩

/-! ### expiry of the session key and of the connection -/

/-- an element of `ta ++ te` that is not in `ta` has all of `ta` before it -/
theorem append_eq_snoc_append {α : Type} {ta te pre post : List α} {e : α} (h : ta ++ te = pre ++ [e] ++ post)
    (hta : e ∉ ta) : ∃ a', pre = ta ++ a' ∧ te = a' ++ [e] ++ post := by
  rw [List.append_assoc] at h
  rcases List.append_eq_append_iff.1 h with ⟨a', h1, h2⟩ | ⟨c', h1, h2⟩
  · exact ⟨a', h1, by rw [h2]; simp⟩
  · cases c' with
    | nil => exact ⟨[], by rw [h1, List.append_nil, List.append_nil], h2.symm⟩
    | cons x t =>
      simp only [List.cons_append, List.cons.injEq] at h2
      exact absurd (by rw [h1]; simp [h2.1]) hta

/-- **C07 (12 h authentication expiry).** If at the start of an exchange the V3 protocol object is not
    authenticated (in particular: its session key is older than the authentication lifetime
    `AUTHENTICATION_EXPIRATION`, regenerated from the source), then whatever the peer does, every data
    packet written by that exchange is preceded — within the exchange, on the same connection — by a
    newly accepted handshake reply. -/
theorem expiry_forces_handshake (p : Params) (rx : Reactions) (s s' : S) (f : Bytes) (n : Nat) (r : R (List Bytes))
    (hal : connAlive s = true) (hv3 : isV3 s = true) (hna : authenticated s = false)
    (h : lanSend p rx s f n = (r, s')) :
    ∃ tr, evsOf s' = evsOf s ++ tr ∧
      ∀ pre e post, tr = pre ++ [e] ++ post → isData e = true → ∃ k, .accept (evCid e) k ∈ pre := by
  obtain ⟨tc, ta, te, i, _⟩ := lanSend_tr h
  cases i.alive hal
  have hrun : Tr p rx s (ta ++ te) s' := i.path
  refine ⟨ta ++ te, hrun.evs, ?_⟩
  intro pre e post hdec hdata
  -- e is in the exchange part, which is therefore not empty: a handshake reply was accepted before it
  obtain ⟨a', hpre, hte⟩ := append_eq_snoc_append hdec fun he => by rw [(i.auth e he).spec.1] at hdata; cases hdata
  obtain ⟨x, hx, hxa⟩ := i.accept (by rw [hte]; simp) hal hv3 hna
  -- all events of the exchange are on the connection that was current at its start
  obtain ⟨c, hc⟩ := Option.isSome_iff_exists.1 (connAlive_isSome hal)
  obtain ⟨hcid, _⟩ := run_on_conn hrun.run
    (List.forall_mem_append.2 ⟨fun y hy => (i.auth y hy).spec.2.1, fun y hy => (i.xchg y hy).spec.1⟩) c hc
  have hxc := hcid x (List.mem_append_left _ hx)
  have hec := hcid e (by rw [hdec]; simp)
  cases x <;> cases hxa
  exact ⟨_, by rw [hec, ← hxc, hpre]; exact List.mem_append_left _ hx⟩

theorem EvOk.write {pre : List Ev} {e : Ev} (h : EvOk pre e) (hk : isData e = true ∨ isHs e = true) :
    (∃ v3, .connect (evCid e) v3 ∈ pre) ∧ .closed (evCid e) ∉ pre := by
  cases e with
  | wrData => exact h.2.2
  | wrHS => exact h.2
  | wrV2 => exact ⟨⟨_, h.1⟩, h.2⟩
  | _ => rcases hk with hk | hk <;> cases hk

/-- **C07 (connection lifetime).** If at the start of an exchange the connection is not alive (in
    particular: the configured maximum connection lifetime has elapsed, or the peer closed it), then
    everything the exchange writes is written on a connection opened during that exchange, and every
    data packet is preceded, on that new connection, by a newly accepted handshake reply. -/
theorem lifetime_forces_new_connection (p : Params) (rx : Reactions) (s s' : S) (f : Bytes) (n : Nat)
    (r : R (List Bytes)) (hinv : Inv (abs s)) (hal : connAlive s = false)
    (h : lanSend p rx s f n = (r, s')) :
    ∃ tr, evsOf s' = evsOf s ++ tr ∧
      ∀ pre e post, tr = pre ++ [e] ++ post → (isData e = true ∨ isHs e = true) →
        (∃ v3, .connect (evCid e) v3 ∈ pre) ∧
        (∀ cid ctr k fr, e = .wrData cid ctr k fr → .accept cid k ∈ pre) := by
  obtain ⟨tc, ta, te, i, hfirst⟩ := lanSend_tr h
  have hevs : evsOf s' = evsOf s ++ (tc ++ ta ++ te) := i.path.evs
  refine ⟨tc ++ ta ++ te, hevs, ?_⟩
  intro pre e post hdec hkind
  have hwf : EvOk (evsOf s ++ pre) e := (hinv.run i.path.run).wf _ e post (by
    show evsOf s' = _
    rw [hevs, hdec]; simp)
  obtain ⟨⟨v3, hconn⟩, hopen⟩ := EvOk.write hwf hkind
  -- the connection of `e` is not one of the old log: those are closed before anything is written
  have hold : ∀ v3, .connect (evCid e) v3 ∉ evsOf s := by
    intro v3 hm
    rcases hinv.others _ _ hm with hcl | ⟨c, hc, hcid⟩
    · exact hopen (List.mem_append_left _ hcl)
    · obtain ⟨tc', htc'⟩ := hfirst hal c hc
      -- the first event of the exchange is the close of that connection; e is a write, so it is later
      rw [htc'] at hdec
      cases pre with
      | nil =>
        simp only [List.cons_append, List.nil_append, List.cons.injEq] at hdec
        rcases hkind with hk | hk <;> rw [← hdec.1] at hk <;> cases hk
      | cons x pre' =>
        simp only [List.cons_append, List.cons.injEq] at hdec
        exact hopen (List.mem_append_right _ (by rw [← hdec.1, hcid]; exact List.mem_cons_self ..))
  refine ⟨⟨v3, (List.mem_append.1 hconn).resolve_left (hold v3)⟩, ?_⟩
  rintro cid ctr k fr rfl
  refine (List.mem_append.1 (lastAccept_some_mem hwf.1)).resolve_left fun hm => ?_
  -- an acceptance in the old log means that the connection was opened in the old log
  obtain ⟨l1, l2, hsplit⟩ := List.append_of_mem hm
  obtain ⟨⟨v3, hcm⟩, _⟩ := hinv.wf l1 (.accept cid k) l2 (by show evsOf s = _; rw [hsplit]; simp)
  exact hold v3 (by rw [hsplit]; exact List.mem_append_left _ hcm)

/-! ### non-vacuity: a concrete history reaches the states the theorems talk about -/

/-- the invariant's hypotheses are met by real histories: against a silent peer, `authenticate` on a
    fresh object logs a V3 connect, then (the previous key dropped) a handshake request with counter 0
    carrying the token -/
example :
    (logAfter {} (fun _ _ => []) { w := { connects := [.ok] }, l := {} } [.authenticate [1, 2] [3]]).take 3 =
      [.connect 1 true, .forget 1, .wrHS 1 0 [1, 2]] := by decide

example : Fresh { w := { connects := [.ok] }, l := {} } := ⟨rfl, rfl, rfl⟩

/-- the counter theorem at the 70,000th packet of a connection: 70000 mod 4096 -/
example : 70000 % 4096 = 368 := by decide

end Msmart.Props.C07
