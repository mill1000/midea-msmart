/-
  C16 — property-protocol settings: sent by the next apply after they change, exactly once, under
  the advertised id, in the vendor encoding, and read back equal; at most one breeze mode.
-/
import Msmart.Spec.PropertyStore
import Msmart.Lemmas.Dict
import Msmart.Props.C14

namespace Msmart.Props.C16
open Msmart.Model Msmart.Lemmas

/-! ### bookkeeping: what touches `_updated_properties` -/

theorem updateState_keeps (d : Dev) (r : Resp) :
    (d.updateState r).updatedProps = d.updatedProps ∧ (d.updateState r).beep = d.beep := by
  cases r with
  | energy e =>
    rw [Dev.updateState, Dev.updateFromEnergy]
    split
    · exact ⟨rfl, rfl⟩
    · split <;> exact ⟨rfl, rfl⟩
  | _ => exact ⟨rfl, rfl⟩

theorem applyResponses_keeps (rs : List Resp) (d : Dev) :
    (applyResponses d rs).updatedProps = d.updatedProps ∧ (applyResponses d rs).beep = d.beep := by
  induction rs generalizing d with
  | nil => exact ⟨rfl, rfl⟩
  | cons r t ih => exact (ih _).imp (·.trans (updateState_keeps d r).1) (·.trans (updateState_keeps d r).2)

theorem exchangeAll_updated (cs : List Cmd) (r : Run) :
    (C14.exchangeAll r cs).1.dev.updatedProps = r.dev.updatedProps ∧ (C14.exchangeAll r cs).1.sent = r.sent ++ cs := by
  induction cs generalizing r with
  | nil => simp [C14.exchangeAll]
  | cons c t ih => simp [C14.exchangeAll, ih, C14.exchange]

/-- a refresh — whatever the device replies — neither forgets nor invents a pending change and
    sends no property write -/
theorem refresh_keeps_updated (r r' : Run) (h : refresh r = .ok r') :
    r'.dev.updatedProps = r.dev.updatedProps ∧ r'.sent = r.sent ++ refreshCommands r.dev := by
  obtain ⟨o, hs, h⟩ := bind_ok.mp h
  have hu := exchangeAll_updated (refreshCommands r.dev) r
  rw [← C14.sendAll_inv hs] at hu
  cases h
  exact ⟨(applyResponses_keeps _ _).1.trans hu.1, hu.2⟩

/-- the property write an `apply` emits -/
def changedWrite (d : Dev) : List (Nat × Nat) :=
  dictSet ((d.updatedProps.filter (fun k => Generated.propertyMapKeys.contains k)).map
    (fun k => (k, propMapValue d k))) pidBuzzer (b2n d.beep)

/-- **C16 (sent once).** An `apply` (whatever the device replies) emits the state command and then,
    iff some property changed since the previous apply, ONE property write carrying exactly the
    changed ids (those with a setting behind them) plus the buzzer, with the values current at that
    moment; afterwards nothing is pending, so the next apply without a change sends no write. -/
theorem apply_sends_changed (r r' : Run) (h : apply r = .ok r') :
    r'.dev.updatedProps = [] ∧
    (r.dev.updatedProps = [] → r'.sent = r.sent ++ [.setState (setStateOfDev r.dev)]) ∧
    (r.dev.updatedProps ≠ [] → ∃ d2 : Dev, d2.updatedProps = r.dev.updatedProps ∧ d2.beep = r.dev.beep ∧
        r'.sent = r.sent ++ [.setState (setStateOfDev r.dev), .setProperties (changedWrite d2)]) := by
  obtain ⟨o1, h1, h⟩ := bind_ok.mp h
  obtain rfl := C14.sendGet_inv h1
  -- `d2`: the device record after the responses to the state command
  have hk := applyResponses_keeps (C14.exchange r (.setState (setStateOfDev r.dev))).2
    (C14.exchange r (.setState (setStateOfDev r.dev))).1.dev
  dsimp only at h
  generalize applyResponses _ _ = d2 at h hk
  change d2.updatedProps = r.dev.updatedProps ∧ d2.beep = r.dev.beep at hk
  split at h
  · rename_i he
    cases h
    rw [hk.1, List.isEmpty_iff] at he
    exact ⟨hk.1.trans he, fun _ => rfl, fun hne => absurd he hne⟩
  · rename_i he
    rw [hk.1] at he
    obtain ⟨r3, h3, h⟩ := bind_ok.mp h
    obtain ⟨o2, h2, h3⟩ := bind_ok.mp h3
    obtain rfl := C14.sendGet_inv h2
    cases h3
    cases h
    exact ⟨rfl, fun hh => absurd (by rw [hh]; rfl) he, fun _ => ⟨d2, hk.1, hk.2, by simp [C14.exchange, changedWrite]⟩⟩

/-- the id a breeze setter records: BREEZE_CONTROL if the device advertised it, else the legacy id -/
theorem setter_ids (d : Dev) (b : Bool) (a v : Nat) :
    (d.setBreezeAway b).updatedProps = setAdd d.updatedProps
      (if d.supportedProps.contains pidBreezeControl then pidBreezeControl else pidBreezeAway) ∧
    (d.setBreezeless b).updatedProps = setAdd d.updatedProps
      (if d.supportedProps.contains pidBreezeControl then pidBreezeControl else pidBreezeless) ∧
    (d.setBreezeMild b).updatedProps = setAdd d.updatedProps pidBreezeControl ∧
    (d.setHAngle a).updatedProps = setAdd d.updatedProps pidSwingLR ∧
    (d.setVAngle a).updatedProps = setAdd d.updatedProps pidSwingUD ∧
    (d.setIeco b).updatedProps = setAdd d.updatedProps pidIeco ∧
    (d.setRateSelect v).updatedProps = setAdd d.updatedProps pidRateSelect :=
  ⟨rfl, rfl, rfl, rfl, rfl, rfl, rfl⟩

/-- **C16 (one breeze mode).** The three breeze flags are views of one field, so at most one is
    reported active in every state whatsoever. -/
theorem one_breeze_mode (d : Dev) :
    ¬ (d.breezeMode = breezeAway ∧ d.breezeMode = breezeMild) ∧
    ¬ (d.breezeMode = breezeAway ∧ d.breezeMode = breezeLess) ∧
    ¬ (d.breezeMode = breezeMild ∧ d.breezeMode = breezeLess) := by
  refine ⟨?_, ?_, ?_⟩ <;> (rintro ⟨h1, h2⟩; rw [h1] at h2; exact absurd h2 (by decide))

/-! ### value round trip through the vendor encoding (device = Spec.PropertyStore) -/

/-- write `pid := v` (plus buzzer) to a device with the given profile, then read `reads` back:
    the properties the library decodes from the read response -/
def writeThenRead (profile : List Nat) (pid v : Nat) (reads : List Nat) : Option PropDict :=
  match setPropsBody [(pid, v), (pidBuzzer, 0)] with
  | .error _ => none
  | .ok wb =>
    let s1 := (Spec.storeStep (Spec.newStore profile) ([0xB0, 2] ++ wb)).1
    match (Spec.storeStep s1 ([0xB1, reads.length.toUInt8] ++ (reads.map le16).flatten)).2 with
    | none => none
    | some payload => (parseProps (payload ++ [0x00])).toOption

def angleValues : List Nat := [0, 1, 25, 50, 75, 100]
def rateValues : List Nat := [100, 50, 75, 1, 20, 40, 60, 80]

/-- **C16 (read back equal).** For every value of every setting, the value written in the vendor
    encoding, stored by the device and read back decodes to the same setting on the device object. -/
theorem angle_roundtrip : ∀ v ∈ angleValues,
    ((writeThenRead [pidSwingLR, pidSwingUD] pidSwingLR v [pidSwingLR, pidSwingUD]).map
        (fun p => (({} : Dev).updateFromProps p).hAngle) = some v) ∧
    ((writeThenRead [pidSwingLR, pidSwingUD] pidSwingUD v [pidSwingLR, pidSwingUD]).map
        (fun p => (({} : Dev).updateFromProps p).vAngle) = some v) := by decide +kernel

theorem rate_roundtrip : ∀ v ∈ rateValues,
    (writeThenRead [pidRateSelect] pidRateSelect v [pidRateSelect]).map
      (fun p => (({} : Dev).updateFromProps p).rateSelect) = some v := by decide +kernel

theorem ieco_roundtrip : ∀ b : Bool,
    (writeThenRead [pidIeco] pidIeco (b2n b) [pidIeco]).map
      (fun p => (({} : Dev).updateFromProps p).ieco) = some b := by decide +kernel

theorem breeze_control_roundtrip : ∀ m ∈ [1, 2, 3, 4],
    (writeThenRead [pidBreezeControl] pidBreezeControl m [pidBreezeControl, pidBreezeAway, pidBreezeless]).map
      (fun p => (({} : Dev).updateFromProps p).breezeMode) = some m := by decide +kernel

/-- legacy ids, every profile that has them — including the one advertising BOTH (the case the
    `fix:` commit ec50352 repaired: it used to read back OFF) -/
theorem breeze_legacy_roundtrip :
    (∀ profile ∈ [[pidBreezeAway], [pidBreezeAway, pidBreezeless], [pidBreezeless, pidBreezeAway]], ∀ b : Bool,
      (writeThenRead profile pidBreezeAway (b2n b) [pidBreezeAway, pidBreezeless]).map
        (fun p => decide ((({} : Dev).updateFromProps p).breezeMode = breezeAway)) = some b) ∧
    (∀ profile ∈ [[pidBreezeless], [pidBreezeAway, pidBreezeless], [pidBreezeless, pidBreezeAway]], ∀ b : Bool,
      (writeThenRead profile pidBreezeless (b2n b) [pidBreezeAway, pidBreezeless]).map
        (fun p => decide ((({} : Dev).updateFromProps p).breezeMode = breezeLess)) = some b) := by
  decide +kernel

/-! ### histories of {setter, refresh, get_capabilities, apply}

The bookkeeping the property quantifies over, as a ghost that runs beside the model: `pending` is the
set of ids recorded by the setters since the last `apply`; an `apply` with something pending appends
ONE entry to `writes` (the pending ids) and empties `pending`; nothing else touches either.  The
theorem below says the model's `_updated_properties` and the property writes in its transmit log are
this ghost — for every history, whatever the device replies. -/

inductive Op where
  | breezeAway (b : Bool) | breezeMild (b : Bool) | breezeless (b : Bool)
  | hAngle (a : Nat) | vAngle (a : Nat) | ieco (b : Bool) | rate (v : Nat)
  | refresh | getCaps | apply

/-- the id a setter records on a device in state `d` (advertised id for the breeze modes) -/
def Op.id (d : Dev) : Op → Option Nat
  | .breezeAway _ => some (if d.supportedProps.contains pidBreezeControl then pidBreezeControl else pidBreezeAway)
  | .breezeless _ => some (if d.supportedProps.contains pidBreezeControl then pidBreezeControl else pidBreezeless)
  | .breezeMild _ => some pidBreezeControl
  | .hAngle _ => some pidSwingLR
  | .vAngle _ => some pidSwingUD
  | .ieco _ => some pidIeco
  | .rate _ => some pidRateSelect
  | _ => none

def stepOp (r : Run) : Op → R Run
  | .breezeAway b => pure { r with dev := r.dev.setBreezeAway b }
  | .breezeMild b => pure { r with dev := r.dev.setBreezeMild b }
  | .breezeless b => pure { r with dev := r.dev.setBreezeless b }
  | .hAngle a => pure { r with dev := r.dev.setHAngle a }
  | .vAngle a => pure { r with dev := r.dev.setVAngle a }
  | .ieco b => pure { r with dev := r.dev.setIeco b }
  | .rate v => pure { r with dev := r.dev.setRateSelect v }
  | .refresh => refresh r
  | .getCaps => getCapabilities r
  | .apply => apply r

structure Ghost where
  pending : List Nat := []
  writes : List (List Nat) := []

def Ghost.step (g : Ghost) (d : Dev) (op : Op) : Ghost :=
  match op with
  | .apply => { pending := [], writes := if g.pending = [] then g.writes else g.writes ++ [g.pending] }
  | .refresh | .getCaps => g
  | op => match op.id d with
    | some i => { g with pending := setAdd g.pending i }
    | none => g

def runOps : Run → Ghost → List Op → R (Run × Ghost)
  | r, g, [] => pure (r, g)
  | r, g, op :: t => do
    let r1 ← stepOp r op
    runOps r1 (g.step r.dev op) t

/-- the ids (other than the buzzer, which rides along on every write) of the property writes in a
    transmit log, one entry per write, in order -/
def writeIds : Cmd → List (List Nat)
  | .setProperties ps => [(Lemmas.keys ps).filter (· ≠ pidBuzzer)]
  | _ => []
def propWrites (cs : List Cmd) : List (List Nat) := (cs.map writeIds).flatten

theorem propWrites_append (a b : List Cmd) : propWrites (a ++ b) = propWrites a ++ propWrites b := by
  simp [propWrites]

def setterIds : List Nat :=
  [pidBreezeControl, pidBreezeAway, pidBreezeless, pidSwingLR, pidSwingUD, pidIeco, pidRateSelect]

/-- every id a setter records has a setting behind it in the property map regenerated from the source
    this run, and is not the buzzer -/
theorem setterIds_mapped : ∀ i ∈ setterIds, Generated.propertyMapKeys.contains i = true ∧ i ≠ pidBuzzer := by
  decide

theorem mem_setAdd (s : List Nat) (x y : Nat) : y ∈ setAdd s x ↔ y ∈ s ∨ y = x := by
  unfold setAdd; split <;> simp_all

theorem sendGetCaps_updated {r : Run} {c : Cmd} {out} (hc : writeIds c = []) (h : sendGetCaps r c = .ok out) :
    out.1.dev.updatedProps = r.dev.updatedProps ∧ propWrites out.1.sent = propWrites r.sent := by
  obtain ⟨o, h1, h⟩ := bind_ok.mp h
  obtain rfl := C14.sendGet_inv h1
  cases h
  exact ⟨rfl, by simp [propWrites, hc]⟩

/-- a capability query sends no property write and leaves the pending set alone -/
theorem getCapabilities_updated (r r' : Run) (h : getCapabilities r = .ok r') :
    r'.dev.updatedProps = r.dev.updatedProps ∧ propWrites r'.sent = propWrites r.sent := by
  obtain ⟨⟨r1, first⟩, h1, h⟩ := bind_ok.mp h
  have s1 := sendGetCaps_updated rfl h1
  dsimp only at h
  split at h
  · split at h
    · obtain ⟨⟨r2, second⟩, h2, h⟩ := bind_ok.mp h
      have s2 := sendGetCaps_updated rfl h2
      split at h <;> cases h <;> exact ⟨s2.1.trans s1.1, s2.2.trans s1.2⟩
    · cases h; exact s1
  · cases h; exact s1

theorem propWrites_refreshCommands (d : Dev) : propWrites (refreshCommands d) = [] := by
  rw [propWrites, List.flatten_eq_nil_iff]
  intro l hl
  obtain ⟨c, hc, rfl⟩ := List.mem_map.mp hl
  rcases C14.mem_refreshCommands hc with rfl | rfl | rfl | rfl <;> rfl

theorem writeIds_changedWrite (d : Dev) (hp : ∀ i ∈ d.updatedProps, i ∈ setterIds) :
    writeIds (.setProperties (changedWrite d)) = [d.updatedProps] := by
  have hf : d.updatedProps.filter (fun k => Generated.propertyMapKeys.contains k) = d.updatedProps :=
    List.filter_eq_self.mpr fun i hi => (setterIds_mapped i (hp i hi)).1
  have hb : d.updatedProps.filter (· ≠ pidBuzzer) = d.updatedProps :=
    List.filter_eq_self.mpr fun i hi => by simpa using (setterIds_mapped i (hp i hi)).2
  have hk : (d.updatedProps.map fun k => (k, propMapValue d k)).map Prod.fst = d.updatedProps := by
    simp [Function.comp_def]
  -- the buzzer is not pending, so it is appended
  rw [writeIds, changedWrite, hf, dictSet_of_not_mem (by rw [Lemmas.keys, hk]; exact fun hm => (setterIds_mapped _ (hp _ hm)).2 rfl),
    Lemmas.keys, List.map_append, hk, List.filter_append, hb]
  simp

/-- what a state must satisfy for the ghost to describe it -/
structure Tracks (r : Run) (g : Ghost) : Prop where
  pending : g.pending = r.dev.updatedProps
  writes : propWrites r.sent = g.writes
  ids : ∀ i ∈ r.dev.updatedProps, i ∈ setterIds

theorem tracks_set {r : Run} {g : Ghost} (ht : Tracks r g) (d' : Dev) {i : Nat} (hi : i ∈ setterIds)
    (hu : d'.updatedProps = setAdd r.dev.updatedProps i) :
    Tracks { r with dev := d' } { g with pending := setAdd g.pending i } := by
  refine ⟨by rw [hu, ht.pending], ht.writes, fun j hj => ?_⟩
  rw [hu, mem_setAdd] at hj
  exact hj.elim (ht.ids j) fun e => e ▸ hi

theorem tracks_step (r r' : Run) (g : Ghost) (op : Op) (ht : Tracks r g) (h : stepOp r op = .ok r') :
    Tracks r' (g.step r.dev op) := by
  cases op
  case refresh =>
    obtain ⟨u, s⟩ := refresh_keeps_updated r r' h
    refine ⟨ht.pending.trans u.symm, ?_, by rw [u]; exact ht.ids⟩
    rw [s, propWrites_append, propWrites_refreshCommands, List.append_nil]
    exact ht.writes
  case getCaps =>
    obtain ⟨u, s⟩ := getCapabilities_updated r r' h
    exact ⟨ht.pending.trans u.symm, s.trans ht.writes, by rw [u]; exact ht.ids⟩
  case apply =>
    obtain ⟨e, h0, h1⟩ := apply_sends_changed r r' h
    refine ⟨e.symm, ?_, by rw [e]; exact nofun⟩
    simp only [Ghost.step, ht.pending]
    by_cases hp : r.dev.updatedProps = []
    · rw [h0 hp, propWrites_append, ht.writes]; simp [hp, propWrites, writeIds]
    · obtain ⟨d2, hd, _, hs⟩ := h1 hp
      have hw := writeIds_changedWrite d2 (by rw [hd]; exact ht.ids)
      rw [hs, propWrites_append, ht.writes]
      simp only [hp, ↓reduceIte, propWrites, List.map_cons, List.map_nil, List.flatten_cons, List.flatten_nil, hw, hd]
      simp [writeIds]
  case breezeAway | breezeless =>  -- the id recorded depends on what the device advertised
    cases h
    exact tracks_set ht _ (by split <;> decide) rfl
  all_goals
    cases h
    exact tracks_set ht _ (by decide) rfl

/-- **C16 (histories).** For EVERY history of setters, refreshes, capability queries and applies —
    whatever the device replies to each — the pending set of the device object and the property
    writes on the wire are the ghost's: a setting is recorded under its advertised id when it changes,
    survives any number of refreshes and capability queries, is sent by the NEXT apply in one write that
    carries exactly the ids changed since the previous apply, and is sent by no later apply unless it
    changes again. -/
theorem history_tracks (ops : List Op) (r r' : Run) (g g' : Ghost) (ht : Tracks r g)
    (h : runOps r g ops = .ok (r', g')) : Tracks r' g' := by
  induction ops generalizing r g with
  | nil => cases h; exact ht
  | cons op t ih =>
    obtain ⟨r1, h1, h⟩ := bind_ok.mp h
    exact ih r1 _ (tracks_step r r1 g op ht h1) h

theorem tracks_init (r : Run) (hu : r.dev.updatedProps = []) (hs : r.sent = []) : Tracks r {} :=
  ⟨hu.symm, by rw [hs]; rfl, by rw [hu]; intro i hi; cases hi⟩

/-- corollary in the property's words: a change is sent exactly once — after `set; apply; apply` the
    two applies emit one property write between them, carrying the changed id -/
theorem changed_sent_once (r r' : Run) (g' : Ghost) (a : Nat) (hu : r.dev.updatedProps = []) (hs : r.sent = [])
    (h : runOps r {} [.hAngle a, .refresh, .apply, .getCaps, .apply] = .ok (r', g')) :
    propWrites r'.sent = [[pidSwingLR]] ∧ r'.dev.updatedProps = [] := by
  have ht := history_tracks _ r r' {} g' (tracks_init r hu hs) h
  -- none of the five steps of the ghost looks at the device record
  obtain ⟨_, _, h⟩ := bind_ok.mp h
  obtain ⟨_, _, h⟩ := bind_ok.mp h
  obtain ⟨_, _, h⟩ := bind_ok.mp h
  obtain ⟨_, _, h⟩ := bind_ok.mp h
  obtain ⟨_, _, h⟩ := bind_ok.mp h
  cases h
  exact ⟨ht.writes, ht.pending.symm⟩

/-! non-vacuity -/
example : (({} : Dev).setBreezeAway true).updatedProps = [pidBreezeAway] := rfl
example : changedWrite (({} : Dev).setRateSelect 50) = [(pidRateSelect, 50), (pidBuzzer, 0)] := by decide

end Msmart.Props.C16
