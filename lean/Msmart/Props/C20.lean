/-
  C20 — `msmart-ng control` applies the documented meaning of each setting=value pair; invalid
  settings are rejected before anything is sent.
-/
import Msmart.Model.Cli
import Msmart.Lemmas.Base

namespace Msmart.Props.C20
open Msmart.Model.Cli

/-- the enumerated settings of the documentation and the enumeration behind each (checked against
    the table regenerated from the AirConditioner class on every run) -/
def enumSettings : List (String × String) :=
  [("operational_mode", "OperationalMode"), ("fan_speed", "FanSpeed"), ("swing_mode", "SwingMode"),
   ("horizontal_swing_angle", "SwingAngle"), ("vertical_swing_angle", "SwingAngle"),
   ("rate_select", "RateSelect"), ("aux_mode", "AuxHeatMode")]

theorem enumSettings_in_table : ∀ p ∈ enumSettings, settingInfo p.1 = some (true, .enum p.2) := by
  decide +kernel

theorem convert_enum_setting (name e raw : String) (lit litCap : Lit) (h : (name, e) ∈ enumSettings) :
    convert name raw lit litCap = convertEnum e raw lit := by
  unfold convert
  rw [show settingInfo name = _ from enumSettings_in_table (name, e) h]
  exact if_neg fun h => h.2 rfl

/-- member names of every enumeration are distinct, so a name determines the member -/
theorem enum_names_distinct : ∀ p ∈ enumSettings, ((enumTable p.2).map Prod.fst).Nodup := by decide +kernel

theorem lookup_member (t : List (String × Nat)) (hn : (t.map Prod.fst).Nodup) (n : String) (v : Nat)
    (hm : (n, v) ∈ t) : lookupName t n = some v := by
  obtain ⟨x, hx⟩ := Option.isSome_iff_exists.mp (List.find?_isSome.mpr ⟨(n, v), hm, decide_eq_true rfl⟩ :
    (t.find? fun kv => kv.1 = n).isSome)
  rw [lookupName, hx, Lemmas.eq_of_nodup_keys hn (List.mem_of_find?_eq_some hx) hm (by simpa using List.find?_some hx)]
  rfl

/-- **C20 (enumerations by name).** For every enumerated setting and every member, ANY text whose
    upper-casing is the member's name — i.e. the name in any letter case — selects that member
    (bare names are not Python literals: `literal_eval` raises ValueError and the text is the name). -/
theorem enum_by_name (name e raw : String) (member : String) (v : Nat) (h : (name, e) ∈ enumSettings)
    (hm : (member, v) ∈ enumTable e) (hcase : raw.toUpper = member) (litCap : Lit) :
    convert name raw (.err "ValueError") litCap = .accept (.enumV v) := by
  rw [convert_enum_setting name e raw _ _ h]
  simp only [convertEnum, enumOfName, hcase]
  rw [lookup_member _ (enum_names_distinct (name, e) h) member v hm]

/-- an integer literal against an enumeration: a member's value selects the member; otherwise only FanSpeed keeps it -/
theorem enumOfNumber_int (e : String) (n : Int) :
    enumOfNumber e true (n * 100) =
      if hasValue (enumTable e) n = true ∨ e = "FanSpeed" then .accept (.enumV n) else .reject := by
  have h2 : n * 100 / 100 = n := by omega
  have h3 : Int.tdiv (n * 100) 100 = n := by rw [Int.tdiv_eq_ediv_of_dvd (by omega)]; omega
  unfold enumOfNumber
  rw [h2, h3]
  by_cases hv : hasValue (enumTable e) n = true
  · rw [if_pos ⟨by omega, hv⟩, if_pos (.inl hv)]
  · rw [if_neg (fun h => hv h.2)]
    by_cases he : e = "FanSpeed" <;> simp [hv, he]

/-- **C20 (enumerations by value).** … and the member's integer value selects it too. -/
theorem enum_by_value (name e raw : String) (member : String) (v : Nat) (h : (name, e) ∈ enumSettings)
    (hm : (member, v) ∈ enumTable e) (litCap : Lit) :
    convert name raw (.int v) litCap = .accept (.enumV v) := by
  rw [convert_enum_setting name e raw _ _ h, convertEnum, enumOfNumber_int, if_pos]
  exact .inl (List.any_eq_true.mpr ⟨(member, v), hm, by simp⟩)

/-- every integer is accepted as a fan speed: a member's value as the member, any other as a raw speed -/
theorem fan_int (raw : String) (n : Int) (litCap : Lit) :
    convert "fan_speed" raw (.int n) litCap = .accept (.enumV n) := by
  rw [convert_enum_setting "fan_speed" "FanSpeed" raw _ _ (by decide), convertEnum, enumOfNumber_int, if_pos (.inr rfl)]

set_option linter.unusedVariables false in  -- `hn` is not needed: `fan_int`
/-- **C20 (raw fan speed).** An integer that is no member of FanSpeed is kept as a raw fan speed;
    for every other enumeration an unknown number is rejected. -/
theorem fan_raw_int (raw : String) (n : Int) (litCap : Lit) (hn : hasValue Generated.fanSpeed n = false) :
    convert "fan_speed" raw (.int n) litCap = .accept (.enumV n) := fan_int raw n litCap

theorem other_enum_unknown_number_rejected (name e raw : String) (n : Int) (litCap : Lit)
    (h : (name, e) ∈ enumSettings) (he : e ≠ "FanSpeed") (hn : hasValue (enumTable e) n = false) :
    convert name raw (.int n) litCap = .reject := by
  rw [convert_enum_setting name e raw _ _ h, convertEnum, enumOfNumber_int, if_neg]
  simp [hn, he]

/-- **C20 (booleans).** True / False / 1 / 0 (the text is capitalised before evaluation, so any
    letter case of true/false) give the obvious truth values, for every boolean setting. -/
theorem bool_spellings (name raw : String) (lit : Lit) (w : Bool) (h : settingInfo name = some (w, .bool))
    (hw : name = "display_on" ∨ w = true) :
    convert name raw lit (.bool true) = .accept (.boolV true) ∧
    convert name raw lit (.bool false) = .accept (.boolV false) ∧
    convert name raw lit (.int 1) = .accept (.boolV true) ∧
    convert name raw lit (.int 0) = .accept (.boolV false) := by
  have hc : ¬ (name ≠ "display_on" ∧ ¬ w = true) := fun ⟨h1, h2⟩ => hw.elim h1 h2
  unfold convert
  rw [h]
  simp only [hc, ↓reduceIte]
  exact ⟨rfl, rfl, rfl, rfl⟩

theorem numberSettings_in_table : settingInfo "target_temperature" = some (true, .float) ∧
    settingInfo "target_humidity" = some (true, .int) := by decide +kernel

/-- **C20 (numbers).** Integer and floating point texts are both accepted for number settings. -/
theorem number_forms (raw : String) (litCap : Lit) (n c : Int) :
    convert "target_temperature" raw (.float c) litCap = .accept (.floatV c) ∧
    convert "target_temperature" raw (.int n) litCap = .accept (.floatV (n * 100)) ∧
    convert "target_humidity" raw (.int n) litCap = .accept (.intV n) := by
  simp [convert, numberSettings_in_table, convertPlain]

/-- **C20 (unknown / read-only).** A name that is not a property of the device, and a property
    without a setter (except `display_on`), are rejected whatever the value. -/
theorem unknown_rejected (name raw : String) (lit litCap : Lit) (h : settingInfo name = none) :
    convert name raw lit litCap = .reject := by
  unfold convert; rw [h]

theorem readonly_rejected (name raw : String) (kind : Model.CliKind) (lit litCap : Lit) (h : settingInfo name = some (false, kind))
    (hn : name ≠ "display_on") : convert name raw lit litCap = .reject := by
  unfold convert; rw [h]; simp [hn]

/-- **C20 (rejected before contact).** If any setting fails to convert — unknown, read-only,
    ill-typed, or even raising — the command ends with that failure and performs NO action at all:
    no connect, no refresh, nothing sent. -/
theorem reject_before_contact (pairs : List Pair) (disp : Bool)
    (hbad : ∃ p ∈ pairs, ∀ v, convert p.name p.raw p.lit p.litCap ≠ .accept v) :
    ∃ c, Msmart.Model.Cli.control pairs disp = .error c := by
  have key : ∀ acc, ∃ c, parseAll pairs acc = .error c := fun acc => by
    fun_induction parseAll pairs acc with
    | case1 => obtain ⟨_, hp, _⟩ := hbad; cases hp
    | case2 q t acc v hc ih =>
      obtain ⟨p, hp, hv⟩ := hbad
      obtain rfl | hp := List.mem_cons.mp hp
      · exact absurd hc (hv v)
      · exact ih ⟨p, hp, hv⟩
    | case3 => exact ⟨_, rfl⟩
  obtain ⟨c, hc⟩ := key []
  exact ⟨c, by rw [Model.Cli.control, hc]⟩

/-- **C20 (order; unspecified settings).** When every setting converts, the command connects and
    refreshes FIRST, toggles the display only when the requested state differs from the reported
    one, then sets exactly the named attributes and applies — attributes not named are whatever the
    refresh reported (with C10/C11: the device keeps them). -/
theorem control_sequence (pairs : List Pair) (disp : Bool) (props : List (String × Value))
    (h : parseAll pairs [] = .ok props) :
    ∃ tail, Msmart.Model.Cli.control pairs disp = .ok (.connect :: .refresh :: tail) ∧
      (Action.toggleDisplay ∈ tail ↔ ∃ b, displayRequest props = some b ∧ b ≠ disp) ∧
      (∀ n v, Action.set n v ∈ tail → (n, v) ∈ props ∧ n ≠ "display_on") := by
  refine ⟨(match displayRequest props with | some b => if b ≠ disp then [.toggleDisplay] else [] | none => []) ++ _,
    by rw [Model.Cli.control, h]; rfl, ?_, fun n v hm => ?_⟩
  · -- the `set`s and the `apply` are not `toggleDisplay`
    rw [List.mem_append, or_iff_left (by split <;> simp)]
    cases displayRequest props with
    | none => simp
    | some b => by_cases hb : b = disp <;> simp [hb]
  · rw [List.mem_append] at hm
    rcases hm with hm | hm
    · split at hm
      · split at hm <;> simp at hm
      · cases hm
    · split at hm
      · cases hm
      · simpa [List.mem_filter] using hm

/-! non-vacuity -/
example (raw : String) (h : raw.toUpper = "COOL") :
    convert "operational_mode" raw (.err "ValueError") (.err "ValueError") = .accept (.enumV 2) :=
  enum_by_name _ "OperationalMode" _ "COOL" 2 (by decide) (by decide) h _
example : ("COOL", 2) ∈ enumTable "OperationalMode" := by decide +kernel
example : convert "online" "True" (.bool true) (.bool true) = .reject := by decide +kernel

end Msmart.Props.C20
