/-
  C01 — end-to-end fidelity.  The layer theorems (C02, C04, C05, C10, C11, C12) composed:
  what the user applies is what the device decodes; what the device reports is what a fresh client
  exposes — through command encoding, V2 framing, V3 encryption, any TCP segmentation, reassembly
  and response decoding, and with duplicated / unsolicited frames interleaved.
-/
import Msmart.Props.C03
import Msmart.Props.C04
import Msmart.Props.C05
import Msmart.Props.C10
import Msmart.Props.C11
import Msmart.Props.C12

namespace Msmart.Props.C01
open Msmart.Model Msmart.Lemmas Msmart.Crypto

/-! ### apply: user state → wire → device -/

theorem commandToBytes_length {ft id : UInt8} {data f : Bytes} (h : commandToBytes ft id data = .ok f) :
    f.length = data.length + 13 := by
  unfold commandToBytes frameToBytes at h
  split at h
  · cases h
  · cases h; simp

/-- **C01 (apply, V2).** For every settable state, device id, timestamp and counter value: the
    bytes `apply()` hands to the V2 transport are decoded by the independent implementation to the
    same device id and a well-formed 0xAC control frame whose body the device reads (vendor layout)
    as exactly the requested state. -/
theorem e2e_apply_v2 (s : Spec.DevState) (hv : s.Valid) (id : Nat) (hid : id < 2 ^ 64) (ts : Bytes)
    (hts : ts.length = 8) (counter : Nat) :
    ∃ frame wire body,
      ((Cmd.setState (setStateOfDev (C10.devOf s))).toBytes counter).1 = .ok frame ∧
      packetEncode id ts frame = .ok wire ∧
      Spec.V2.decode wire = some (id, frame) ∧
      Spec.parseFrame frame = some ⟨0xAC, Spec.ftControl, body, ((counter + 1) % 256).toUInt8⟩ ∧
      Spec.decodeSetState body = some s := by
  obtain ⟨body, hb, hbl, hdec⟩ := C10.setstate_body s hv
  obtain ⟨frame, hframe, hparse⟩ := C12.frame_wellformed ftControl (nextMessageId counter).2 body (by omega)
  have hfit := C02.small_frames_fit frame (by rw [commandToBytes_length hframe]; omega)
  obtain ⟨wire, hw, hd⟩ := C02.v2_spec_decodes_encode frame ts id hts hid hfit
  exact ⟨frame, wire, body, by simp only [Cmd.toBytes, Cmd.body, hb]; exact hframe, hw, hd, hparse, hdec⟩

/-- **C01 (apply, V3).** … and on a V3 connection the same V2 packet, encrypted under ANY session
    key with ANY 2-byte counter and pad bytes, is recovered by the independent V3 decoder. -/
theorem e2e_apply_v3 (wire key padBytes : Bytes) (pid : Nat) (hp : pid < 65536)
    (hpl : padBytes.length = v3Pad wire.length) (hsz : wire.length + v3Pad wire.length + 32 < 65536) :
    ∃ pkt, encodeEncryptedRequest (some key) pid wire padBytes = .ok pkt ∧
      Spec.V3.decodeEncrypted key pkt = some ⟨6, pid, wire⟩ :=
  C05.v3_spec_decodes_request key wire padBytes pid hp hpl hsz

/-! ### refresh: device state → wire → client attributes -/

/-- byte 2 and byte 13: the mode and the two temperature codes, over the whole domain -/
theorem st_temp : ∀ t : Nat, t < 88 → 26 ≤ t → ∀ m : Nat, m < 8 →
    stateTemp (((m % 8) * 32).toUInt8 ||| (if 34 ≤ t ∧ t ≤ 61 then (t / 2 - 16).toUInt8 else 0) ||| flag (t % 2 = 1) 0x10)
      (if 34 ≤ t ∧ t ≤ 61 then 0 else (t / 2 - 12).toUInt8) = (t : Int) * 50 ∧
    ((((m % 8) * 32).toUInt8 ||| (if 34 ≤ t ∧ t ≤ 61 then (t / 2 - 16).toUInt8 else 0) ||| flag (t % 2 = 1) 0x10) >>> 5).toNat % 8 = m ∧
    bit (if 34 ≤ t ∧ t ≤ 61 then 0 else (t / 2 - 12).toUInt8) 0x20 = false := by
  decide +kernel

/-- the filter flag of byte 13 lies outside the mask of the temperature code -/
theorem stateTemp_filter (b2 b13 : UInt8) (f : Bool) : stateTemp b2 (b13 ||| flag f 0x20) = stateTemp b2 b13 := by
  unfold stateTemp; rw [and_or, show flag f 0x20 &&& 0x1F = 0 by cases f <;> rfl, UInt8.or_zero]

/-- the status a device in state `s` reports (display, filter flag, raw sensor bytes and tenths digits as given), as the
    client decodes it -/
def reportOf (s : Spec.DevState) (disp filt : Bool) (ir orr dg : UInt8) : StateResp :=
  { power := s.power, tempCenti := (s.tempHalf : Int) * 50, mode := s.mode, fan := s.fan, swing := s.swing,
    turbo := s.turbo, eco := s.eco, sleep := s.sleep, fahrenheit := s.fahrenheit,
    indoor := parseTemp ir.toNat (dg &&& 0xF).toNat s.fahrenheit,
    outdoor := parseTemp orr.toNat (dg >>> 4).toNat s.fahrenheit,
    filterAlert := filt, displayOn := disp, freeze := some s.freeze, followMe := s.followMe, purifier := s.purifier,
    humidity := some s.humidity, auxHeat := s.aux = 1, indepAuxHeat := s.aux = 2 }

/-- the client decodes the status payload of a device in state `s` to exactly that state -/
theorem status_roundtrip (s : Spec.DevState) (hv : s.Valid) (disp filt : Bool) (ir orr dg mid : UInt8) :
    parseState (Spec.statusPayload s disp filt ir orr dg mid) = .ok (reportOf s disp filt ir orr dg) := by
  obtain ⟨power, beep, mode, t, fan, swing, eco, turbo, sleep, fahr, freeze, follow, pur, hum, aux⟩ := s
  obtain ⟨hm, ht1, ht2, hf, hs, hh, ha⟩ := hv
  simp only at hm ht1 ht2 hf hs hh ha
  have ht := st_temp t (by omega) ht1 mode hm
  -- on a payload of known length the parser runs by evaluation; what is left is the record, field by field
  refine Eq.trans (b := .ok _) rfl (congrArg Except.ok ?_)
  -- as in `C10.setstate_body`: the flags, then the numbers
  simp (config := { decide := true }) only [reportOf, StateResp.mk.injEq, Spec.statusPayload, fl_eq_flag, bit_or, bit_flag,
    decide_true, decide_false, Bool.and_true, Bool.and_false, Bool.or_false, Bool.false_or, Bool.or_self, true_and, stateTemp_filter,
    ht.1, ht.2.1, ht.2.2, List.length_cons, List.length_nil, List.getElem?_cons_succ, List.getElem?_cons_zero, Option.map_some,
    Option.some.injEq, ↓reduceIte, and_true, show ∀ d : Bool, decide ((if d then (0 : UInt8) else 112) ≠ 112) = d by decide]
  simp (disch := omega) only [and_or, UInt8.toNat_and, UInt8.toNat_or, UInt8.toNat_ofNat', Nat.toUInt8_eq, UInt8.reduceToNat,
    Py.and_mask _ (m := 15) (by decide), Py.and_mask _ (m := 127) (by decide), Nat.reduceAdd, Nat.reduceMod, Nat.reducePow,
    Nat.zero_or, Nat.mod_eq_of_lt, and_self]

theorem auxMode_reportOf (s : Spec.DevState) (hv : s.Valid) (disp filt : Bool) (ir orr dg : UInt8) (d : Dev) :
    (d.updateFromState (reportOf s disp filt ir orr dg)).auxMode = s.aux := by
  simp only [Dev.updateFromState, reportOf, decide_eq_true_eq, C10.aux_rt s.aux hv.2.2.2.2.2.2]

/-- the independent encoder's header in front of as many bytes as its size field says is a packet for the reassembly loop -/
theorem wf_of_header (sz p t : Nat) (R : Bytes) (hs : sz < 65536) (hR : R.length = sz + 2) :
    C04.WfPacket (Spec.V3.header sz p t ++ R) := by
  rw [header_append]
  refine ⟨rfl, by simp only [List.length_cons]; omega, ?_⟩
  simp only [sizeField, List.getD_cons_succ, List.getD_cons_zero, List.length_cons, hR]
  rw [u8nat _ (by omega), u8nat _ (by omega)]; omega

/-- a spec-encoded V3 packet is a well-formed packet for the reassembly loop -/
theorem v3_packet_wf (key data padBytes : Bytes) (ptype ctr : Nat) (hpl : padBytes.length = Spec.V3.padOf data.length)
    (hsz : data.length + Spec.V3.padOf data.length + 32 < 65536) :
    C04.WfPacket (Spec.V3.encodeEncrypted key ptype ctr data padBytes) := by
  unfold Spec.V3.encodeEncrypted
  rw [List.append_assoc]
  refine wf_of_header _ _ _ _ hsz ?_
  simp only [List.length_append, AES.cbcEncrypt_length, SHA256.sha256_length, hpl, Spec.V3.be16, List.length_cons,
    List.length_nil]
  omega

/-- a reply frame of a device on its way through the V3 transport: the encrypted packet is queued whole, decrypts to the
    V2 packet, and that decodes to the frame -/
theorem v3_reply_chain (frame : Bytes) (hf : frame.length ≤ 255) (id : Nat) (ts filler key padBytes : Bytes) (ctr : Nat)
    (hts : ts.length = 8) (hfl : filler.length = 12)
    (hpl : padBytes.length = Spec.V3.padOf (Spec.V2.encode id ts filler frame).length) :
    parseLoop (Spec.V3.encodeEncrypted key 3 ctr (Spec.V2.encode id ts filler frame) padBytes) =
        ([Spec.V3.encodeEncrypted key 3 ctr (Spec.V2.encode id ts filler frame) padBytes], []) ∧
      processPacket (some key) (Spec.V3.encodeEncrypted key 3 ctr (Spec.V2.encode id ts filler frame) padBytes) =
        .ok (Spec.V2.encode id ts filler frame) ∧
      packetDecode (Spec.V2.encode id ts filler frame) = .ok frame := by
  have hfit := C02.small_frames_fit frame hf
  have hsz : (Spec.V2.encode id ts filler frame).length + Spec.V3.padOf (Spec.V2.encode id ts filler frame).length + 32
      < 65536 := by
    have hl : (Spec.V2.encode id ts filler frame).length = _ := C03.authentic_length id ts filler frame hts hfl hfit
    have hp := padOf_lt (Spec.V2.encode id ts filler frame).length
    rw [encryptAes_length] at hl
    omega
  exact ⟨C04.parseLoop_packet (v3_packet_wf key _ padBytes 3 ctr hpl hsz),
    C05.v3_decode_spec_response key _ padBytes ctr hpl hsz, C02.v2_decode_spec_encode frame ts filler id hts hfl hfit⟩

theorem status_frame_small (s : Spec.DevState) (disp filt : Bool) (ir orr dg mid ft proto : UInt8) (style : Spec.CheckStyle) :
    (Spec.respFrame ft proto style (Spec.statusPayload s disp filt ir orr dg mid)).length ≤ 255 :=
  Nat.le_of_ble_eq_true rfl

theorem construct_status_frame (s : Spec.DevState) (hv : s.Valid) (disp filt : Bool) (ir orr dg mid ft proto : UInt8)
    (style : Spec.CheckStyle) :
    construct (Spec.respFrame ft proto style (Spec.statusPayload s disp filt ir orr dg mid)) =
      .ok (.state (reportOf s disp filt ir orr dg)) := by
  have hst := status_roundtrip s hv disp filt ir orr dg mid
  rw [show Spec.statusPayload s disp filt ir orr dg mid = 0xC0 :: _ from rfl] at hst ⊢
  rw [C11.construct_state_frame ft proto style _ (by simp), hst]; rfl

/-- **C01 (refresh).** For every device state, check style, frame/protocol bytes, device id,
    timestamp, header filler, session key, counter, pad bytes AND for every way TCP cuts the reply
    into segments (any number of cuts): the V3 client's reassembly queues exactly the one packet,
    which decrypts to the V2 packet, which decodes to the frame, which is decoded as a state
    response whose values a fresh client exposes as exactly the device's state. -/
theorem e2e_refresh_v3 (s : Spec.DevState) (hv : s.Valid) (disp filt : Bool) (ir orr dg mid ft proto : UInt8)
    (style : Spec.CheckStyle) (id : Nat) (ts filler key padBytes : Bytes) (ctr : Nat)
    (hts : ts.length = 8) (hfl : filler.length = 12)
    (hpl : padBytes.length = Spec.V3.padOf
      (Spec.V2.encode id ts filler (Spec.respFrame ft proto style (Spec.statusPayload s disp filt ir orr dg mid))).length)
    (segs : List Bytes)
    (hsegs : segs.flatten = Spec.V3.encodeEncrypted key 3 ctr
      (Spec.V2.encode id ts filler (Spec.respFrame ft proto style (Spec.statusPayload s disp filt ir orr dg mid))) padBytes) :
    ∃ pkt v2 frame st,
      feedAll [] segs = ([pkt], []) ∧
      processPacket (some key) pkt = .ok v2 ∧
      packetDecode v2 = .ok frame ∧
      construct frame = .ok (.state st) ∧
      (({} : Dev).updateFromState st).power = s.power ∧
      (({} : Dev).updateFromState st).tempCenti = (s.tempHalf : Int) * 50 ∧
      (({} : Dev).updateFromState st).fan = (s.fan : Int) ∧
      (({} : Dev).updateFromState st).auxMode = s.aux ∧
      (({} : Dev).updateFromState st).displayOn = disp := by
  obtain ⟨hq, hp, hd⟩ := v3_reply_chain (Spec.respFrame ft proto style (Spec.statusPayload s disp filt ir orr dg mid))
    (status_frame_small ..) id ts filler key padBytes ctr hts hfl hpl
  refine ⟨_, _, _, _, ?_, hp, hd, construct_status_frame s hv disp filt ir orr dg mid ft proto style, rfl, rfl, rfl,
    auxMode_reportOf s hv disp filt ir orr dg _, rfl⟩
  rw [C04.segmentation_independent segs [] C04.stable_nil, List.nil_append, hsegs, hq]

/-- **C01 (refresh, V2).** The same without the V3 layer (one whole packet; see known finding D10
    for segmented V2 replies). -/
theorem e2e_refresh_v2 (s : Spec.DevState) (hv : s.Valid) (disp filt : Bool) (ir orr dg mid ft proto : UInt8)
    (style : Spec.CheckStyle) (id : Nat) (ts filler : Bytes) (hts : ts.length = 8) (hfl : filler.length = 12) :
    ∃ frame st,
      packetDecode (Spec.V2.encode id ts filler (Spec.respFrame ft proto style (Spec.statusPayload s disp filt ir orr dg mid)))
        = .ok frame ∧
      construct frame = .ok (.state st) ∧
      (({} : Dev).updateFromState st).power = s.power ∧
      (({} : Dev).updateFromState st).tempCenti = (s.tempHalf : Int) * 50 ∧
      (({} : Dev).updateFromState st).fan = (s.fan : Int) ∧
      (({} : Dev).updateFromState st).auxMode = s.aux :=
  ⟨_, _, C02.v2_decode_spec_encode _ ts filler id hts hfl (C02.small_frames_fit _ (status_frame_small ..)),
    construct_status_frame s hv disp filt ir orr dg mid ft proto style, rfl, rfl, rfl,
    auxMode_reportOf s hv disp filt ir orr dg _⟩

/-! ### duplicated and unsolicited frames -/

theorem updateFromState_idem (d : Dev) (st : StateResp) :
    (d.updateFromState st).updateFromState st = d.updateFromState st := by
  simp only [Dev.updateFromState]; rfl

/-- a response list made of copies of one state response and of frames the device object ignores
    (unknown ids, unsolicited capability frames with another frame type — decoded as plain responses) -/
inductive Benign (st : StateResp) : Resp → Prop
  | state : Benign st (.state st)
  | base (i p) : Benign st (.base i p)
  | caps (c) : Benign st (.caps c)

/-- **C01 (interleaving).** Whatever duplicates of the state response and whatever ignorable frames
    are interleaved in whatever order, the client ends in the same state as from the one response. -/
theorem interleaving_harmless (st : StateResp) (rs : List Resp) (hall : ∀ r ∈ rs, Benign st r)
    (hone : Resp.state st ∈ rs) (d : Dev) :
    applyResponses d rs = d.updateFromState st := by
  -- once the state response has been applied, nothing benign changes the client any more
  have absorbed : ∀ (rs : List Resp) (d : Dev), (∀ r ∈ rs, Benign st r) →
      applyResponses (d.updateFromState st) rs = d.updateFromState st := by
    intro rs
    induction rs with
    | nil => intro d _; rfl
    | cons r t ih =>
      intro d hall
      have ht := ih d (fun x hx => hall x (List.mem_cons_of_mem _ hx))
      cases hall r List.mem_cons_self with
      | state => exact (congrArg (applyResponses · t) (updateFromState_idem d st)).trans ht
      | base i p => exact ht
      | caps c => exact ht
  induction rs generalizing d with
  | nil => cases hone
  | cons r t ih =>
    have hall' := fun x hx => hall x (List.mem_cons_of_mem _ hx)
    cases hall r List.mem_cons_self with
    | state => exact absorbed t d hall'
    | base i p => exact ih hall' (by simpa using hone) _
    | caps c => exact ih hall' (by simpa using hone) _

/-! non-vacuity -/
example : (⟨true, false, 2, 41, 102, 12, true, false, false, false, false, false, false, 40, 0⟩ : Spec.DevState).Valid := by
  decide

end Msmart.Props.C01
