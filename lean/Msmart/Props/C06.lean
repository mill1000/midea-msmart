/-
  C06 — V3 handshake: key agreement when genuine, sound rejection otherwise (codec level:
  `_process_packet` on the reply and `_get_local_key`; the state-machine part — key stored only on
  success, nothing but handshake requests written — is in Props/C07 over the Session model).
-/
import Msmart.Lemmas.CodecEqLan
import Msmart.Props.C05

namespace Msmart.Props.C06
open Msmart.Model Msmart.Lemmas Msmart.Crypto Msmart.Props.C05

/-- `Py.xorBytes` (zip-style, truncating) coincides with the spec's XOR on equal lengths -/
theorem py_xor_eq_spec (a b : Bytes) (h : a.length = b.length) : Py.xorBytes a b = AES.xorBytes a b := by
  fun_induction AES.xorBytes a b with
  | case1 x xs y ys ih => rw [Py.xorBytes, ih (Nat.succ.inj h)]
  | case2 xs => rw [List.eq_nil_of_length_eq_zero h]; rfl
  | case3 y ys => cases h

/-- the 64-byte payload the client extracts from a handshake response packet -/
theorem process_handshake_reply (key nonce : Bytes) (ctr : Nat) (k : Option Bytes) :
    processPacket k (Spec.V3.handshakeReply key nonce ctr) =
      .ok (AES.cbcEncrypt key Spec.V3.iv nonce ++ SHA256.sha256 nonce) := by
  unfold Spec.V3.handshakeReply
  rw [List.append_assoc, List.append_assoc, processPacket_of_header k _ (0 * 16 + 1).toUInt8 rfl rfl rfl]
  rfl

/-- **C06 (agreement).** For every key and every device nonce of the key's length (32 bytes in the
    protocol): from the genuine reply the client derives exactly the device's session key
    `nonce XOR key`. -/
theorem handshake_agreement (key nonce : Bytes) (hn : nonce.length = 32) (hk : key.length = 32) (ctr : Nat)
    (k : Option Bytes) :
    ∃ payload, processPacket k (Spec.V3.handshakeReply key nonce ctr) = .ok payload ∧
      getLocalKey key payload = .ok (Spec.V3.sessionKey key nonce) := by
  refine ⟨_, process_handshake_reply key nonce ctr k, ?_⟩
  rw [getLocalKey_append _ _ _ (by rw [AES.cbcEncrypt_length, hn]) (SHA256.sha256_length _), iv_eq,
    AES.cbcDecrypt_cbcEncrypt, if_pos rfl, if_pos hk, py_xor_eq_spec _ _ (by rw [hn, hk])]
  rfl

/-- **C06 (length).** A reply payload of any length other than 64 fails with an authentication error. -/
theorem wrong_length_rejected (key data : Bytes) (h : data.length ≠ 64) : getLocalKey key data = .error .auth :=
  getLocalKey_bad_length key data h

/-- **C06 (hash half).** Any alteration confined to the 32-byte proof is rejected outright. -/
theorem proof_alteration_rejected (key ct h' : Bytes) (hc : ct.length = 32) (hh : h'.length = 32)
    (hne : h' ≠ SHA256.sha256 (AES.cbcDecrypt key zeroIv ct)) :
    getLocalKey key (ct ++ h') = .error .auth := by
  rw [getLocalKey_append key ct h' hc hh, if_neg fun e => hne e.symm]

/-- what acceptance of a 64-byte payload means -/
theorem accepted_means_proof (key ct h out : Bytes) (hc : ct.length = 32) (hh : h.length = 32)
    (hacc : getLocalKey key (ct ++ h) = .ok out) :
    SHA256.sha256 (AES.cbcDecrypt key zeroIv ct) = h ∧
      out = Py.xorBytes (AES.cbcDecrypt key zeroIv ct) key := by
  rw [getLocalKey_append key ct h hc hh] at hacc
  split at hacc
  · exact ⟨‹_›, (ok_of_ite hacc).2.symm⟩
  · cases hacc

/-- **C06 (ciphertext half, reduction).** Altering the encrypted-nonce half of a genuine reply
    while keeping the proof can only be accepted if the genuine and the altered nonce are an explicit
    SHA-256 collision (CBC decryption is proved injective). -/
theorem ciphertext_alteration_collision (key nonce ct' out : Bytes) (hn : nonce.length = 32)
    (hc' : ct'.length = 32) (hne : ct' ≠ AES.cbcEncrypt key zeroIv nonce)
    (hacc : getLocalKey key (ct' ++ SHA256.sha256 nonce) = .ok out) :
    Sha256Collision (AES.cbcDecrypt key zeroIv ct') nonce := by
  obtain ⟨hs, _⟩ := accepted_means_proof key ct' (SHA256.sha256 nonce) out hc' (SHA256.sha256_length nonce) hacc
  exact ⟨fun heq => hne (AES.cbcDecrypt_injective key zeroIv (heq.trans (AES.cbcDecrypt_cbcEncrypt key zeroIv nonce).symm)), hs⟩

/-- decrypting under `k` what was encrypted under a different key `k'` gives back the same plaintext -/
def KeyConfusion (k k' p : Bytes) : Prop := k ≠ k' ∧ AES.cbcDecrypt k zeroIv (AES.cbcEncrypt k' zeroIv p) = p

/-- **C06 (different key, reduction).** A genuine-looking reply produced under another key `k'` can
    only be accepted by a client holding `k` through a SHA-256 collision or a key confusion event. -/
theorem wrong_key_reduction (k k' nonce out : Bytes) (hn : nonce.length = 32) (hk : k ≠ k')
    (hacc : getLocalKey k (AES.cbcEncrypt k' zeroIv nonce ++ SHA256.sha256 nonce) = .ok out) :
    Sha256Collision (AES.cbcDecrypt k zeroIv (AES.cbcEncrypt k' zeroIv nonce)) nonce ∨ KeyConfusion k k' nonce := by
  have hcl : (AES.cbcEncrypt k' zeroIv nonce).length = 32 := by rw [AES.cbcEncrypt_length]; exact hn
  obtain ⟨hs, _⟩ := accepted_means_proof k (AES.cbcEncrypt k' zeroIv nonce) (SHA256.sha256 nonce) out hcl
    (SHA256.sha256_length nonce) hacc
  by_cases he : AES.cbcDecrypt k zeroIv (AES.cbcEncrypt k' zeroIv nonce) = nonce
  · right; exact ⟨hk, he⟩
  · left; exact ⟨he, hs⟩

/-- **C06 (type).** An error packet, or any packet type other than a handshake / encrypted
    response, in place of the reply is a protocol error (promoted to an authentication error by
    `_LanProtocolV3.authenticate`); an encrypted response before any key exists likewise. -/
theorem error_packet_rejected (k : Option Bytes) : processPacket k Spec.V3.errorPacket = .error .protocol := by
  rw [Spec.V3.errorPacket, processPacket_of_header k _ 0x0F rfl rfl rfl]; rfl

theorem encrypted_before_key_rejected (p : Bytes) (b5 : UInt8) (h2 : p.take 2 = [0x83, 0x70]) (h4 : p[4]? = some 0x20)
    (h5 : p[5]? = some b5) (ht : b5.toNat % 16 = ptEncryptedResponse) :
    processPacket none p = .error .protocol := by
  rw [processPacket_of_header none p b5 h2 h4 h5, if_pos ht]; rfl

/-! non-vacuity -/
example : ∃ payload, processPacket none (Spec.V3.handshakeReply (Py.zeros 32) (List.replicate 32 7) 0) = .ok payload ∧
    getLocalKey (Py.zeros 32) payload = .ok (Spec.V3.sessionKey (Py.zeros 32) (List.replicate 32 7)) :=
  handshake_agreement _ _ (by decide) (by decide) 0 none

/-! ### the same statements about the code as translated from the source text (tie by translation, §3.1b) -/

/-- **C06 (agreement) about the translated `_process_packet` and `_get_local_key`.** -/
theorem handshake_agreement_code (key nonce : Bytes) (hn : nonce.length = 32) (hk : key.length = 32) (ctr : Nat)
    (k : Option Bytes) :
    ∃ payload, Generated.Codec.processPacket k (Spec.V3.handshakeReply key nonce ctr) = .ok payload ∧
      Generated.Codec.getLocalKey key payload = .ok (Spec.V3.sessionKey key nonce) := by
  obtain ⟨p, h1, h2⟩ := handshake_agreement key nonce hn hk ctr k
  exact ⟨p, by rw [CodecEq.processPacket_eq]; exact h1, by rw [CodecEq.getLocalKey_eq]; exact h2⟩

theorem wrong_length_rejected_code (key data : Bytes) (h : data.length ≠ 64) :
    Generated.Codec.getLocalKey key data = .error .auth := by
  rw [CodecEq.getLocalKey_eq]; exact wrong_length_rejected key data h

end Msmart.Props.C06
