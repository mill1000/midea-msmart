/-
  C15 — capability records are interpreted independently and survive paging.
  (About the tree repaired by `fix:` 336b922; before it an undersized TEMPERATURES record made the
  loop lose every later record.)
-/
import Msmart.Model.Device
import Msmart.Lemmas.Dict
import Msmart.Lemmas.Base

namespace Msmart.Props.C15
open Msmart.Model Msmart.Lemmas

/-- a well-formed capability record: 16-bit id, size byte = number of data bytes -/
structure CapRecord where
  id : Nat
  data : Bytes
  deriving DecidableEq, Repr

def CapRecord.WF (r : CapRecord) : Prop := r.id < 65536 ∧ r.data.length ≤ 255

def CapRecord.encode (r : CapRecord) : Bytes :=
  [(r.id % 256).toUInt8, (r.id / 256 % 256).toUInt8, r.data.length.toUInt8] ++ r.data

def encodeAll (rs : List CapRecord) : Bytes := (rs.map CapRecord.encode).flatten

def d0 (l : Bytes) (i : Nat) : UInt8 := l.getD i 0

/-- the assignments a record makes, in order — its meaning, independent of any neighbour -/
def recordSets (r : CapRecord) : CapDict :=
  if r.data.length = 0 then [] else
  match capLookup r.id with
  | none => []
  | some rs =>
    if r.id = capTemperatures then
      if r.data.length < 6 then []
      else setTemps [] (d0 r.data 0) (d0 r.data 1) (d0 r.data 2) (d0 r.data 3) (d0 r.data 4) (d0 r.data 5)
        (if r.data.length > 6 then d0 r.data 6 ≠ 0 else r.data.length.toUInt8 ≠ 0)
    else applyReaders [] rs (d0 r.data 0).toNat

/-- `applyReaders` / `setTemps` are lists of `dictSet`s: express them as `dictUpdate` with the
    assignment list -/
def readerSets (rs : List (String × Nat)) (v : Nat) : CapDict := rs.map (fun r => (r.1, CapVal.b (r.2.testBit v)))

theorem applyReaders_sets (d : CapDict) (rs : List (String × Nat)) (v : Nat) :
    applyReaders d rs v = dictUpdate d (readerSets rs v) := by
  rw [dictUpdate, readerSets, List.foldl_map]; rfl

def tempSets (c3 c4 c5 c6 c7 c8 : UInt8) (dec : Bool) : CapDict :=
  [("cool_min_temperature", .half c3.toNat), ("cool_max_temperature", .half c4.toNat),
   ("auto_min_temperature", .half c5.toNat), ("auto_max_temperature", .half c6.toNat),
   ("heat_min_temperature", .half c7.toNat), ("heat_max_temperature", .half c8.toNat),
   ("decimals", .b dec)]

theorem setTemps_sets (d : CapDict) (c3 c4 c5 c6 c7 c8 : UInt8) (dec : Bool) :
    setTemps d c3 c4 c5 c6 c7 c8 dec = dictUpdate d (tempSets c3 c4 c5 c6 c7 c8 dec) := by
  -- (`rfl` works but unifies the seven string keys the slow way)
  simp only [setTemps, tempSets, dictUpdate, List.foldl_cons, List.foldl_nil]

/-- the assignments a record makes, in order, before they are folded into a dictionary -/
def recordAssign (r : CapRecord) : CapDict :=
  if r.data.length = 0 then [] else
  match capLookup r.id with
  | none => []
  | some rs =>
    if r.id = capTemperatures then
      if r.data.length < 6 then []
      else tempSets (d0 r.data 0) (d0 r.data 1) (d0 r.data 2) (d0 r.data 3) (d0 r.data 4) (d0 r.data 5)
        (if r.data.length > 6 then d0 r.data 6 ≠ 0 else r.data.length.toUInt8 ≠ 0)
    else readerSets rs (d0 r.data 0).toNat

theorem recordSets_eq (r : CapRecord) : recordSets r = dictUpdate [] (recordAssign r) := by
  -- `dictUpdate []` goes into the branches; the leaves agree by the two lemmas above
  rw [recordSets, recordAssign, apply_ite (dictUpdate [])]
  cases capLookup r.id with
  | none => rfl
  | some rs =>
    rw [apply_ite (dictUpdate []), apply_ite (dictUpdate []), ← setTemps_sets, ← applyReaders_sets]
    rfl

/-- **one iteration = one record.** On a well-formed record followed by anything, the loop body
    consumes exactly that record and applies exactly that record's assignments. -/
theorem capStep_record (d : CapDict) (r : CapRecord) (hr : r.WF) (rest : Bytes) :
    capStep d (r.encode ++ rest) = .next (dictUpdate d (recordAssign r)) rest := by
  obtain ⟨id, data⟩ := r
  obtain ⟨hid, hlen⟩ := hr
  have hget : ∀ i, i < data.length → (data ++ rest)[i]? = some (d0 data i) := fun i h => by
    rw [List.getElem?_append_left h, getElem?_getD h]; rfl
  have hsz : data.length.toUInt8.toNat = data.length := Lemmas.u8nat _ (Nat.lt_succ_of_le hlen)
  have hz : data.length.toUInt8 = 0 ↔ data.length = 0 := by rw [← UInt8.toNat_inj, hsz]; rfl
  have hdrop : (data ++ rest).drop data.length = rest := List.drop_left
  -- both sides branch on the same tests, in the same order
  simp only [capStep, recordAssign, CapRecord.encode, List.cons_append, List.nil_append, List.length_cons,
    List.getElem?_cons_succ, List.getElem?_cons_zero, List.take_succ_cons, List.take_zero, show Py.fromLE [(id % 256).toUInt8, (id / 256 % 256).toUInt8] = id from fromLE_toLE 2 id hid,
    hsz, hz, Nat.add_comm 3, List.drop_succ_cons, List.drop_zero, hdrop]
  rw [if_neg (by omega)]
  by_cases h0 : data.length = 0
  · rw [if_pos h0, if_pos h0, List.eq_nil_of_length_eq_zero h0]; rfl
  · rw [if_neg h0, if_neg h0, hget 0 (by omega)]
    cases capLookup id with
    | none => rfl
    | some rs =>
      dsimp only
      by_cases ht : id = capTemperatures
      · rw [if_pos ht, if_pos ht]
        by_cases h6 : data.length < 6
        · rw [if_pos h6, if_pos h6]; rfl
        · rw [if_neg h6, if_neg h6]
          simp (disch := omega) only [capTempRecord, List.getElem?_cons_succ, hget, Nat.add_comm 3, List.drop_succ_cons,
            hdrop, setTemps_sets]
          split <;> simp only [ne_eq, hz]
      · rw [if_neg ht, if_neg ht, applyReaders_sets]

theorem loop_records (rs : List CapRecord) (hrs : ∀ r ∈ rs, r.WF) (d : CapDict) (trailer : Bytes) :
    parseCapsLoop rs.length d (encodeAll rs ++ trailer) = .ok (dictUpdate d (rs.flatMap recordAssign), trailer) := by
  induction rs generalizing d with
  | nil => rfl
  | cons r t ih =>
    simp only [List.length_cons, encodeAll, List.map_cons, List.flatten_cons, List.append_assoc, List.flatMap_cons,
      dictUpdate_append]
    rw [parseCapsLoop, capStep_record d r (hrs r List.mem_cons_self)]
    exact ih (fun x hx => hrs x (List.mem_cons_of_mem _ hx)) _

/-- a capabilities payload as the device sends it -/
def capsPayload (rs : List CapRecord) (trailer : Bytes) : Bytes :=
  [0xB5, rs.length.toUInt8] ++ encodeAll rs ++ trailer

/-- what the library reports for a well-formed payload: the assignments of its records, in order -/
theorem parseCaps_records (rs : List CapRecord) (hrs : ∀ r ∈ rs, r.WF) (hn : rs.length ≤ 255)
    (trailer : Bytes) :
    parseCaps (capsPayload rs trailer) =
      .ok ⟨dictUpdate [] (rs.flatMap recordAssign), additionalFlag trailer⟩ := by
  unfold parseCaps capsPayload
  simp only [List.cons_append, List.nil_append, Py.idx, List.getElem?_cons_succ, List.getElem?_cons_zero,
    bind, Except.bind, List.drop_succ_cons, List.drop_zero, Nat.toUInt8, UInt8.toNat_ofNat_of_lt' (Nat.lt_succ_of_le hn)]
  rw [loop_records rs hrs]
  rfl

/-- what the library reports for a record interpreted *alone* (a one-record response) -/
def interpAlone (r : CapRecord) : CapDict := recordSets r

theorem interpAlone_is_single_parse (r : CapRecord) (hr : r.WF) (trailer : Bytes) :
    parseCaps (capsPayload [r] trailer) = .ok ⟨interpAlone r, additionalFlag trailer⟩ := by
  rw [parseCaps_records [r] (by simpa using hr) (by simp), interpAlone, recordSets_eq, List.flatMap_singleton]

/-- merging the records' own dictionaries one after the other = applying all their assignments -/
theorem foldl_interpAlone (rs : List CapRecord) (d : CapDict) :
    DictEq (rs.foldl (fun acc r => dictUpdate acc (interpAlone r)) d) (dictUpdate d (rs.flatMap recordAssign)) := by
  induction rs generalizing d with
  | nil => exact .refl _
  | cons r t ih =>
    rw [List.foldl_cons, List.flatMap_cons, dictUpdate_append, interpAlone, recordSets_eq]
    exact (ih _).trans (dictUpdate_congr _ (dictUpdate_via_fresh d _))

/-- **C15 (independence).** For every well-formed list of records (known, unknown, empty,
    odd-sized, undersized temperature records, in any order, any number up to the count byte's
    255) and any trailer, the capabilities reported equal — as a mapping — those obtained by
    interpreting each record alone and merging in order. -/
theorem caps_compositional (rs : List CapRecord) (hrs : ∀ r ∈ rs, r.WF) (hn : rs.length ≤ 255)
    (trailer : Bytes) :
    ∃ c, parseCaps (capsPayload rs trailer) = .ok c ∧
      DictEq c.caps (rs.foldl (fun acc r => dictUpdate acc (interpAlone r)) []) ∧
      c.additional = additionalFlag trailer :=
  ⟨_, parseCaps_records rs hrs hn trailer, (foldl_interpAlone rs []).symm, rfl⟩

/-- **C15 (paging).** Splitting the list at any point across a first and an 'additional' response
    and merging gives the same capabilities as one response carrying all records. -/
theorem caps_paging (rs : List CapRecord) (hrs : ∀ r ∈ rs, r.WF) (hn : rs.length ≤ 255) (k : Nat)
    (t1 t2 t : Bytes) :
    ∃ c1 c2 c, parseCaps (capsPayload (rs.take k) t1) = .ok c1 ∧
      parseCaps (capsPayload (rs.drop k) t2) = .ok c2 ∧
      parseCaps (capsPayload rs t) = .ok c ∧
      DictEq (c1.merge c2).caps c.caps := by
  refine ⟨_, _, _,
    parseCaps_records (rs.take k) (fun r hr => hrs r (List.mem_of_mem_take hr)) (by rw [List.length_take]; omega) t1,
    parseCaps_records (rs.drop k) (fun r hr => hrs r (List.mem_of_mem_drop hr)) (by rw [List.length_drop]; omega) t2,
    parseCaps_records rs hrs hn t, ?_⟩
  -- the second page's dictionary merged into the first = its assignments applied after the first's
  have e : rs.flatMap recordAssign = (rs.take k).flatMap recordAssign ++ (rs.drop k).flatMap recordAssign := by
    rw [← List.flatMap_append, List.take_append_drop]
  rw [e, dictUpdate_append]
  exact dictUpdate_via_fresh _ _

/-- derived attributes read the capabilities only through lookups, so they agree too (shown for
    the boolean and temperature readers every `supports_*` / min / max attribute is built from) -/
theorem capBool_congr {a b : CapDict} (h : DictEq a b) (k : String) : capBool a k = capBool b k := by
  unfold capBool; rw [h k]
theorem capTempHalf_congr {a b : CapDict} (h : DictEq a b) (k : String) (dflt : Nat) :
    capTempHalf a k dflt = capTempHalf b k dflt := by
  unfold capTempHalf; rw [h k]

/-! history: the loop body as it was before the repair lost its place -/
example : recordAssign ⟨capTemperatures, [1, 2, 3]⟩ = [] := by decide
/-! non-vacuity -/
example : (⟨0x0212, [1]⟩ : CapRecord).WF := by unfold CapRecord.WF; decide
example : recordAssign ⟨0x0212, [1]⟩ = [("eco", .b true)] := by decide

end Msmart.Props.C15
