/-
  C02 — the V2 packet codec interoperates: every frame and device id round-trips against an
  independent implementation of the format, in both directions.
-/
import Msmart.Lemmas.CodecEqLan
import Msmart.Lemmas.V2

namespace Msmart.Props.C02
open Msmart.Model Msmart.Lemmas Msmart.Crypto

theorem header_eq (frame ts : Bytes) (id : Nat) :
    v2Header (40 + (encryptAes frame).length + 16) ts id =
      Spec.V2.header id ts (Py.zeros 12) frame := by
  unfold v2Header Spec.V2.header
  rw [spec_body_eq, le_eq_toLE, le_eq_toLE]
  have : 40 + (encryptAes frame).length + 16 = 56 + (encryptAes frame).length := by omega
  rw [this]
  simp [Py.zeros, List.append_assoc]

/-- the packet the library emits is byte for byte the packet the independent encoder emits -/
theorem encode_eq_spec (frame ts : Bytes) (id : Nat) (hid : id < 2 ^ 64)
    (hlen : 40 + (encryptAes frame).length + 16 < 65536) :
    packetEncode id ts frame = .ok (Spec.V2.encode id ts (Py.zeros 12) frame) := by
  unfold packetEncode
  rw [if_neg (by omega), if_neg (by omega)]
  unfold Spec.V2.encode sign
  rw [header_eq, spec_body_eq, signKey_eq]

/-- the strict independent decoder on header(40) ++ ciphertext ++ tag(16) with marker, length field and signature right -/
theorem spec_decode_layout (H B T : Bytes) (hH : H.length = 40) (hT : T.length = 16)
    (h2 : H.take 2 = [0x5A, 0x5A]) (hl : Py.fromLE ((H.drop 4).take 2) = 56 + B.length)
    (hsig : sign (H ++ B) = T) (hmod : B.length % 16 = 0) :
    Spec.V2.decode ((H ++ B) ++ T) =
      (AES.pkcs7Unpad (AES.ecbDecrypt Spec.V2.encKey B)).map (fun f => (Py.fromLE ((H.drop 20).take 8), f)) := by
  unfold Spec.V2.decode
  have hlen : ((H ++ B) ++ T).length = 56 + B.length := by
    rw [List.length_append, List.length_append, hH, hT]; omega
  rw [if_neg (by rw [hlen]; omega)]
  rw [List.append_assoc, List.take_append_of_le_length (by omega), h2, if_neg (by simp)]
  rw [drop_take_of_prefix H _ 4 2 (by omega), unle_eq_fromLE, hl, ← List.append_assoc, hlen, if_neg (by simp)]
  rw [← hlen, take_sub_right _ _ hT, drop_sub_right _ _ hT, ← signKey_eq, ← sign, hsig, if_neg (by simp),
    List.drop_left' hH, if_neg (by rw [hmod]; simp)]
  rw [List.append_assoc, drop_take_of_prefix H _ 20 8 (by omega), unle_eq_fromLE]
  cases AES.pkcs7Unpad (AES.ecbDecrypt Spec.V2.encKey B) <;> rfl

theorem spec_header_facts (frame ts filler : Bytes) (id : Nat) (hts : ts.length = 8) (hfl : filler.length = 12)
    (hlen : 56 + (encryptAes frame).length < 65536) :
    (Spec.V2.header id ts filler frame).length = 40 ∧
    (Spec.V2.header id ts filler frame).take 2 = [0x5A, 0x5A] ∧
    Py.fromLE (((Spec.V2.header id ts filler frame).drop 4).take 2) = 56 + (encryptAes frame).length ∧
    ((Spec.V2.header id ts filler frame).drop 20).take 8 = Py.toLE 8 id := by
  refine ⟨by simp [Spec.V2.header, le_eq_toLE, toLE_length, hts, hfl], rfl, ?_, ?_⟩
  · -- the four bytes in front of the field and the field itself are explicit
    rw [show ((Spec.V2.header id ts filler frame).drop 4).take 2 = Py.toLE 2 (56 + (Spec.V2.body frame).length) from rfl,
      spec_body_eq, fromLE_toLE 2 _ (by omega)]
  · rw [Spec.V2.header, le_eq_toLE, le_eq_toLE, List.append_assoc _ (Py.toLE 8 id),
      List.drop_left' (by simp [toLE_length, hts]), List.take_left' (toLE_length 8 id)]

theorem spec_encode_eq (id : Nat) (ts filler frame : Bytes) :
    Spec.V2.encode id ts filler frame =
      (Spec.V2.header id ts filler frame ++ encryptAes frame) ++
        sign (Spec.V2.header id ts filler frame ++ encryptAes frame) := by
  simp [Spec.V2.encode, spec_body_eq, List.append_assoc, sign, signKey_eq]

/-- the strict independent decoder accepts what the independent encoder produces -/
theorem spec_decode_encode (frame ts filler : Bytes) (id : Nat) (hts : ts.length = 8)
    (hfl : filler.length = 12) (hid : id < 2 ^ 64) (hlen : 56 + (encryptAes frame).length < 65536) :
    Spec.V2.decode (Spec.V2.encode id ts filler frame) = some (id, frame) := by
  obtain ⟨hH, h2, hl, hid8⟩ := spec_header_facts frame ts filler id hts hfl hlen
  rw [spec_encode_eq, spec_decode_layout _ _ _ hH (sign_length _) h2 hl rfl (encryptAes_mod frame), hid8,
    fromLE_toLE 8 id (by simpa using hid)]
  have hdec : AES.pkcs7Unpad (AES.ecbDecrypt Spec.V2.encKey (encryptAes frame)) = some frame := by
    unfold encryptAes; rw [encKey_eq, AES.ecbDecrypt_ecbEncrypt, AES.pkcs7Unpad_pkcs7Pad]
  rw [hdec]; rfl

/-- **C02 (→).** Every frame whose packet fits the 2-byte length field (every frame of 0..65,463
    bytes — 0..255 included), every device id below 2⁶⁴ and every timestamp: the packet the
    library emits is decoded by the independent implementation to the identical id and frame. -/
theorem v2_spec_decodes_encode (frame ts : Bytes) (id : Nat) (hts : ts.length = 8) (hid : id < 2 ^ 64)
    (hlen : 56 + (encryptAes frame).length < 65536) :
    ∃ p, packetEncode id ts frame = .ok p ∧ Spec.V2.decode p = some (id, frame) := by
  refine ⟨_, encode_eq_spec frame ts id hid (by omega), ?_⟩
  exact spec_decode_encode frame ts (Py.zeros 12) id hts (by simp [Py.zeros]) hid hlen

/-- frames of up to 255 bytes always fit -/
theorem small_frames_fit (frame : Bytes) (h : frame.length ≤ 255) :
    56 + (encryptAes frame).length < 65536 := by
  rw [encryptAes_length]; omega

/-- **C02 (←).** Every packet the independent implementation produces for any frame (any id, any
    timestamp, any header filler) is decoded by the library to exactly that frame. -/
theorem v2_decode_spec_encode (frame ts filler : Bytes) (id : Nat) (hts : ts.length = 8)
    (hfl : filler.length = 12) (hlen : 56 + (encryptAes frame).length < 65536) :
    packetDecode (Spec.V2.encode id ts filler frame) = .ok frame := by
  obtain ⟨hH, h2, hl, _⟩ := spec_header_facts frame ts filler id hts hfl hlen
  unfold packetDecode
  rw [spec_encode_eq, packetCheck_layout _ _ _ hH (sign_length _) hl, if_pos ⟨h2, rfl⟩]
  simp only [decryptAes_encryptAes frame]

/-- PKCS7: every padding length 1..16 occurs and the padded length is a multiple of the block -/
theorem pkcs7_facts (d : Bytes) :
    (AES.pkcs7Pad d).length % 16 = 0 ∧ d.length < (AES.pkcs7Pad d).length ∧
    (AES.pkcs7Pad d).length ≤ d.length + 16 ∧ AES.pkcs7Unpad (AES.pkcs7Pad d) = some d :=
  ⟨AES.pkcs7Pad_length_mod d, AES.pkcs7Pad_length_gt d, AES.pkcs7Pad_length_le d, AES.pkcs7Unpad_pkcs7Pad d⟩

/-- outside the domain the code raises OverflowError (explicit error branch, not totalised) -/
theorem encode_overflow (frame ts : Bytes) (id : Nat)
    (h : 65536 ≤ 40 + (encryptAes frame).length + 16 ∨ 2 ^ 64 ≤ id) :
    packetEncode id ts frame = .error (.py "OverflowError") := by
  unfold packetEncode
  by_cases h1 : 40 + (encryptAes frame).length + 16 ≥ 65536
  · rw [if_pos h1]
  · rw [if_neg h1, if_pos (by omega)]

/-! non-vacuity: a concrete packet, evaluated in the kernel (AES-128, MD5) -/
example : packetDecode (Spec.V2.encode 0x123456789ABC (Py.zeros 8) (Py.zeros 12) [0xAA, 0x0B, 0xAC]) =
    .ok [0xAA, 0x0B, 0xAC] :=
  v2_decode_spec_encode _ _ _ _ rfl rfl (by rw [encryptAes_length]; decide)

/-! ### the same statements about the code as translated from the source text (tie by translation, §3.1b) -/

theorem packetEncodeI_nat (id : Nat) (ts frame : Bytes) :
    packetEncodeI (id : Int) ts frame = packetEncode id ts frame := by
  unfold packetEncodeI packetEncode overflow
  split
  · rfl
  · rw [if_neg (by omega), Int.toNat_natCast]

/-- **C02 (→) about the translated `_Packet.encode`** (`Generated/Codec.lean`, regenerated from lan.py on every run). -/
theorem v2_spec_decodes_encode_code (frame ts : Bytes) (id : Nat) (hts : ts.length = 8) (hid : id < 2 ^ 64)
    (hlen : 56 + (encryptAes frame).length < 65536) :
    ∃ p, Generated.Codec.packetEncode (id : Int) frame ts = .ok p ∧ Spec.V2.decode p = some (id, frame) := by
  rw [CodecEq.packetEncode_eq, packetEncodeI_nat]; exact v2_spec_decodes_encode frame ts id hts hid hlen

/-- **C02 (←) about the translated `_Packet.decode`.** -/
theorem v2_decode_spec_encode_code (frame ts filler : Bytes) (id : Nat) (hts : ts.length = 8)
    (hfl : filler.length = 12) (hlen : 56 + (encryptAes frame).length < 65536) :
    Generated.Codec.packetDecode (Spec.V2.encode id ts filler frame) = .ok frame := by
  rw [CodecEq.packetDecode_eq]; exact v2_decode_spec_encode frame ts filler id hts hfl hlen

end Msmart.Props.C02
