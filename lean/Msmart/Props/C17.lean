/-
  C17 — discovery reports each replying device with exactly its advertised identity; the probe
  sent is the one real devices answer.
-/
import Msmart.Model.Discover
import Msmart.Spec.DiscoverSpec
import Msmart.Lemmas.V2

namespace Msmart.Props.C17
open Msmart.Model Msmart.Lemmas

/-- `split("_")` takes a separator-free prefix off whole -/
theorem split_prefix (a rest : Bytes) (ha : ∀ c ∈ a, c ≠ 0x5F) :
    splitOn5F (a ++ 0x5F :: rest) = a :: splitOn5F rest := by
  induction a with
  | nil => simp [splitOn5F]
  | cons c t ih =>
    have hc : c ≠ 0x5F := ha c List.mem_cons_self
    have iht := ih fun x hx => ha x (List.mem_cons_of_mem _ hx)
    simp only [List.cons_append, splitOn5F, hc, ↓reduceIte, iht]

theorem split_head (a : Bytes) (rest : Bytes) (ha : ∀ c ∈ a, c ≠ 0x5F) :
    (splitOn5F (a ++ 0x5F :: rest))[0]? = some a := by
  rw [split_prefix a rest ha]; rfl

/-- the type field of a `net_<hh>_<suffix>` name -/
theorem name_type_segment (hh suffix : Bytes) (hhh : ∀ c ∈ hh, c ≠ 0x5F) :
    (splitOn5F ([0x6E, 0x65, 0x74, 0x5F] ++ hh ++ [0x5F] ++ suffix))[1]? = some hh := by
  have h1 : [0x6E, 0x65, 0x74, 0x5F] ++ hh ++ [0x5F] ++ suffix =
      [0x6E, 0x65, 0x74] ++ 0x5F :: (hh ++ 0x5F :: suffix) := by simp
  rw [h1, split_prefix _ _ (by decide), split_prefix hh suffix hhh]
  rfl

/-- the sixteen hex digits, in either case: read back as themselves, no separator, ASCII -/
theorem hexDigit_facts : ∀ n, n < 16 → ∀ up : Bool,
    hexVal? (Spec.Discover.hexDigit up n) = some n ∧ Spec.Discover.hexDigit up n ≠ 0x5F ∧
      Spec.Discover.hexDigit up n < 0x80 := by decide

/-- every appliance type byte, in either hex case, parses back to itself -/
theorem hex2_roundtrip : ∀ b, b < 256 → ∀ up : Bool, parseHex (Spec.Discover.hex2 up b) = some b := by
  intro b hb up
  have h1 := (hexDigit_facts (b / 16) (by omega) up).1
  have h2 := (hexDigit_facts (b % 16) (by omega) up).1
  simp only [parseHex, Spec.Discover.hex2, List.isEmpty_cons, Bool.false_eq_true, ↓reduceIte, List.foldl_cons, h1, h2, List.foldl_nil, Option.some.injEq]
  omega

theorem hex2_no_sep : ∀ b, b < 256 → ∀ up : Bool, ∀ c ∈ Spec.Discover.hex2 up b, c ≠ 0x5F := by
  intro b hb up c hc
  simp only [Spec.Discover.hex2, List.mem_cons, List.not_mem_nil, or_false] at hc
  rcases hc with rfl | rfl
  · exact (hexDigit_facts (b / 16) (by omega) up).2.1
  · exact (hexDigit_facts (b % 16) (by omega) up).2.1

theorem hex2_ascii : ∀ b, b < 256 → ∀ up : Bool, isAscii (Spec.Discover.hex2 up b) = true := by
  intro b hb up
  simp [isAscii, Spec.Discover.hex2, (hexDigit_facts (b / 16) (by omega) up).2.2, (hexDigit_facts (b % 16) (by omega) up).2.2]

theorem isAscii_append (a b : Bytes) : isAscii (a ++ b) = (isAscii a && isAscii b) := by
  simp [isAscii, List.all_append]

theorem parseBody_spec (version id : Nat) (ipRev sn suffix extra : Bytes) (port dtype : Nat) (up : Bool)
    (hip : ipRev.length = 4) (hsn : sn.length = 32) (hsa : isAscii sn = true) (hsx : isAscii suffix = true)
    (hd : dtype < 256) (hnl : (Spec.Discover.nameOf up dtype suffix).length ≤ 255) :
    parseBody version id (Spec.Discover.body ipRev port sn (Spec.Discover.nameOf up dtype suffix) extra) =
      some { port := port % 65536, id := id, sn := sn, name := Spec.Discover.nameOf up dtype suffix,
             dtype := dtype, version := version } := by
  have hna : isAscii (Spec.Discover.nameOf up dtype suffix) = true := by
    simp only [Spec.Discover.nameOf, isAscii_append, hex2_ascii dtype hd up, hsx]
    decide
  have hseg := name_type_segment _ suffix (hex2_no_sep dtype hd up)
  rw [← Spec.Discover.nameOf] at hseg
  generalize Spec.Discover.nameOf up dtype suffix = name at *
  -- the body, cut where the parser cuts it
  have hbody : Spec.Discover.body ipRev port sn name extra =
      ipRev ++ (Py.toLE 4 port ++ (sn ++ (name.length.toUInt8 :: (name ++ extra)))) := by
    simp [Spec.Discover.body, le_eq_toLE]
  generalize Spec.Discover.body ipRev port sn name extra = dec at *
  have d4 : dec.drop 4 = Py.toLE 4 port ++ (sn ++ (name.length.toUInt8 :: (name ++ extra))) := by
    rw [hbody]; exact List.drop_left' hip
  have d8 : dec.drop 8 = sn ++ (name.length.toUInt8 :: (name ++ extra)) := by
    rw [show 8 = 4 + 4 from rfl, ← List.drop_drop, d4]; exact List.drop_left' (toLE_length 4 port)
  have d40 : dec.drop 40 = name.length.toUInt8 :: (name ++ extra) := by
    rw [show 40 = 8 + 32 from rfl, ← List.drop_drop, d8]; exact List.drop_left' hsn
  have d41 : dec.drop 41 = name ++ extra := by
    rw [show 41 = 40 + 1 from rfl, ← List.drop_drop, d40]; rfl
  have i40 : dec[40]? = some name.length.toUInt8 := by
    have := List.getElem?_drop (xs := dec) (i := 40) (j := 0)
    rw [d40] at this; exact this.symm
  have hport : Py.fromLE ((dec.drop 4).take 2) = port % 65536 := by
    rw [d4]
    simp only [Py.toLE, List.cons_append, List.take_succ_cons, List.take_zero, Py.fromLE, u8_mod]
    omega
  unfold parseBody
  rw [if_neg (by rw [hbody]; simp [hip]), d8, List.take_left' hsn, if_neg (by simp [hsa]), i40]
  simp only [UInt8.toNat_ofNat_of_lt' (show name.length < 256 by omega), d41, List.take_left' rfl]
  rw [if_neg (by simp [hna]), hseg]
  simp only [hex2_roundtrip dtype hd up, hport]

/-- the identity reported for a reply whose inner V2 packet is device-built, whatever wraps it -/
theorem getDeviceInfo_inner (version : Nat) (data pre mid tail ipRev sn suffix extra : Bytes) (id port dtype : Nat)
    (up : Bool)
    (hin : replyInner version data = Spec.Discover.replyV2 pre id mid
        (Spec.Discover.body ipRev port sn (Spec.Discover.nameOf up dtype suffix) extra) tail)
    (hpre : pre.length = 20) (hmid : mid.length = 14) (htail : tail.length = 16) (hid : id < 2 ^ 48)
    (hip : ipRev.length = 4) (hsn : sn.length = 32) (hsa : isAscii sn = true) (hsx : isAscii suffix = true)
    (hd : dtype < 256) (hnl : (Spec.Discover.nameOf up dtype suffix).length ≤ 255) :
    getDeviceInfo version data =
      .ok { port := port % 65536, id := id, sn := sn, name := Spec.Discover.nameOf up dtype suffix,
            dtype := dtype, version := version } := by
  have hpb := parseBody_spec version id ipRev sn suffix extra port dtype up hip hsn hsa hsx hd hnl
  generalize Spec.Discover.body ipRev port sn (Spec.Discover.nameOf up dtype suffix) extra = b at hin hpb
  have hhdr : (pre ++ Spec.V2.le 6 id ++ mid).length = 40 := by
    simp [le_eq_toLE, toLE_length, hpre, hmid]
  have hshape : Spec.Discover.replyV2 pre id mid b tail =
      ((pre ++ Spec.V2.le 6 id ++ mid) ++ encryptAes b) ++ tail := by
    simp [Spec.Discover.replyV2, encryptAes, encKey_eq, List.append_assoc]
  have hidb : ((((pre ++ Spec.V2.le 6 id ++ mid) ++ encryptAes b) ++ tail).drop 20).take 6 = Py.toLE 6 id := by
    rw [List.append_assoc, List.append_assoc, List.append_assoc, List.drop_left' hpre, le_eq_toLE,
      List.take_left' (toLE_length 6 id)]
  unfold getDeviceInfo
  rw [hin, hshape, take_sub_right _ _ htail, List.drop_left' hhdr, decryptAes_encryptAes]
  simp only
  rw [hidb, fromLE_toLE 6 id (by simpa using hid), hpb]

/-- **C17 (identity, V2 reply).** For every device id below 2⁴⁸, every port, every 32-byte ASCII
    serial, every name `net_<hh>_<suffix>` with any appliance type byte in either hex case, any
    reported IP and arbitrary other header bytes, the library reports exactly the id, port, serial,
    name, type and version the reply encodes. -/
theorem discover_identity_v2 (pre mid tail ipRev sn suffix extra : Bytes) (id port dtype : Nat) (up : Bool)
    (hpre : pre.length = 20) (hmid : mid.length = 14) (htail : tail.length = 16) (hid : id < 2 ^ 48)
    (hip : ipRev.length = 4) (hsn : sn.length = 32) (hsa : isAscii sn = true) (hsx : isAscii suffix = true)
    (hd : dtype < 256) (hnl : (Spec.Discover.nameOf up dtype suffix).length ≤ 255) :
    getDeviceInfo 2 (Spec.Discover.replyV2 pre id mid
        (Spec.Discover.body ipRev port sn (Spec.Discover.nameOf up dtype suffix) extra) tail) =
      .ok { port := port % 65536, id := id, sn := sn, name := Spec.Discover.nameOf up dtype suffix,
            dtype := dtype, version := 2 } :=
  getDeviceInfo_inner 2 _ pre mid tail ipRev sn suffix extra id port dtype up rfl hpre hmid htail hid hip hsn hsa hsx hd hnl

/-- **C17 (identity, V3 reply).** The same for a V3 reply: 8 prefix bytes and 16 trailing bytes
    around the V2 reply are stripped and the version reported is 3. -/
theorem discover_identity_v3 (prefix8 suffix16 pre mid tail ipRev sn suffix extra : Bytes) (id port dtype : Nat)
    (up : Bool) (hp8 : prefix8.length = 8) (hs16 : suffix16.length = 16)
    (hpre : pre.length = 20) (hmid : mid.length = 14) (htail : tail.length = 16) (hid : id < 2 ^ 48)
    (hip : ipRev.length = 4) (hsn : sn.length = 32) (hsa : isAscii sn = true) (hsx : isAscii suffix = true)
    (hd : dtype < 256) (hnl : (Spec.Discover.nameOf up dtype suffix).length ≤ 255) :
    getDeviceInfo 3 (Spec.Discover.replyV3 prefix8 (Spec.Discover.replyV2 pre id mid
        (Spec.Discover.body ipRev port sn (Spec.Discover.nameOf up dtype suffix) extra) tail) suffix16) =
      .ok { port := port % 65536, id := id, sn := sn, name := Spec.Discover.nameOf up dtype suffix,
            dtype := dtype, version := 3 } := by
  refine getDeviceInfo_inner 3 _ pre mid tail ipRev sn suffix extra id port dtype up ?_ hpre hmid htail hid hip hsn hsa hsx
    hd hnl
  unfold replyInner Spec.Discover.replyV3
  rw [if_pos rfl, take_sub_right _ _ hs16, List.drop_left' hp8]

/-- **C17 (class).** Air conditioners (type 0xAC) are instantiated as AC devices, every other type
    as a generic device — `_get_device_class` is a test on the type only. -/
def isAirConditioner (i : DevInfo) : Bool := i.dtype = 0xAC

/-- **C17 (probe).** The discovery probe regenerated from const.py is a well-formed, correctly
    signed V2 packet (strict independent decoder, AES-128 and MD5 evaluated in the kernel). -/
theorem probe_is_valid_v2 : (Spec.V2.decode Generated.discoveryMsg).isSome = true := by decide +kernel

/-! non-vacuity -/
example : Spec.Discover.nameOf false 0xAC [0x31] = [0x6E, 0x65, 0x74, 0x5F, 0x61, 0x63, 0x5F, 0x31] := by decide

end Msmart.Props.C17
