/-
  C19 — cloud token retrieval follows the API contract and returns only matching credentials.
-/
import Msmart.Model.Cloud
import Msmart.Lemmas.CodecEqLan  -- audited here (obligations.json): `securityUdpid_eq`
import Msmart.Spec.CloudSpec

namespace Msmart.Props.C19
open Msmart.Model

theorem leKV_trans (a b c : String × String) : leKV a b → leKV b c → leKV a c := by
  simp only [leKV, decide_eq_true_eq]; exact String.le_trans

theorem leKV_total (a b : String × String) : (leKV a b || leKV b a) = true := by
  simp only [leKV, Bool.or_eq_true, decide_eq_true_eq]; exact String.le_total _ _

theorem sorted_unique {l₁ l₂ : Fields} (hnd : (l₁.map Prod.fst).Nodup)
    (h₁ : l₁.Pairwise (fun a b => leKV a b)) (h₂ : l₂.Pairwise (fun a b => leKV a b)) (hp : l₁.Perm l₂) : l₁ = l₂ := by
  refine List.Perm.eq_of_pairwise (le := fun a b => leKV a b) (fun a b ha hb hab hba => ?_) h₁ h₂ hp
  simp only [leKV, decide_eq_true_eq] at hab hba
  exact Lemmas.eq_of_nodup_keys hnd ha (hp.symm.subset hb) (String.le_antisymm hab hba)

/-- **C19 (field order).** The signature does not depend on the order in which the body fields
    were put together: any permutation of a body with distinct keys signs identically. -/
theorem sign_order_independent (path : String) (fs gs : Fields) (hp : fs.Perm gs)
    (hnd : (fs.map Prod.fst).Nodup) : cloudSign path fs = cloudSign path gs := by
  unfold cloudSign canonical
  have hs : fs.mergeSort leKV = gs.mergeSort leKV := by
    apply sorted_unique
    · exact ((List.mergeSort_perm fs leKV).map Prod.fst).nodup_iff.mpr hnd
    · exact List.pairwise_mergeSort leKV_trans leKV_total fs
    · exact List.pairwise_mergeSort leKV_trans leKV_total gs
    · exact (List.mergeSort_perm fs leKV).trans (hp.trans (List.mergeSort_perm gs leKV).symm)
  rw [hs]

/-! the independent server's canonicalisation agrees with the library's -/

theorem insertKV_perm (kv : String × String) (l : Fields) : (Spec.Cloud.insertKV kv l).Perm (kv :: l) := by
  fun_induction Spec.Cloud.insertKV kv l with
  | case1 | case2 => exact .refl _
  | case3 h t _ ih => exact (ih.cons h).trans (.swap kv h t)

theorem sortKV_perm (l : Fields) : (Spec.Cloud.sortKV l).Perm l := by
  induction l with
  | nil => exact .refl _
  | cons h t ih => exact (insertKV_perm h _).trans (ih.cons h)

theorem insertKV_sorted (kv : String × String) (l : Fields) (hl : l.Pairwise (fun a b => leKV a b)) :
    (Spec.Cloud.insertKV kv l).Pairwise (fun a b => leKV a b) := by
  fun_induction Spec.Cloud.insertKV kv l with
  | case1 => exact List.pairwise_singleton _ _
  | case2 h t hle =>
    refine List.pairwise_cons.mpr ⟨fun x hx => ?_, hl⟩
    obtain rfl | hx := List.mem_cons.mp hx
    · exact decide_eq_true hle
    · exact leKV_trans kv h x (decide_eq_true hle) (List.rel_of_pairwise_cons hl hx)
  | case3 h t hnle ih =>
    refine List.pairwise_cons.mpr ⟨fun x hx => ?_, ih hl.tail⟩
    obtain rfl | hx := List.mem_cons.mp ((insertKV_perm kv t).subset hx)
    · exact decide_eq_true ((String.le_total _ _).resolve_left hnle)
    · exact List.rel_of_pairwise_cons hl hx

theorem sortKV_sorted (l : Fields) : (Spec.Cloud.sortKV l).Pairwise (fun a b => leKV a b) := by
  induction l with
  | nil => exact .nil
  | cons h t ih => exact insertKV_sorted h _ ih

theorem sort_agree (fs : Fields) (hnd : (fs.map Prod.fst).Nodup) : Spec.Cloud.sortKV fs = fs.mergeSort leKV := by
  apply sorted_unique
  · exact ((sortKV_perm fs).map Prod.fst).nodup_iff.mpr hnd
  · exact sortKV_sorted fs
  · exact List.pairwise_mergeSort leKV_trans leKV_total fs
  · exact (sortKV_perm fs).trans (List.mergeSort_perm fs leKV).symm

theorem appKey_agree : Generated.appKey = Spec.Cloud.appKey := by decide

/-- **C19 (requests verify).** Every form the library posts — whatever endpoint and body with
    distinct field names not called `sign` — passes the conforming server's signature check. -/
theorem request_verifies (endpoint : String) (body : Fields) (hnd : (body.map Prod.fst).Nodup)
    (hns : ∀ kv ∈ body, kv.1 ≠ "sign") :
    Spec.Cloud.verifySign (apiRequest endpoint body).1 (apiRequest endpoint body).2 = true := by
  have hfind : (body ++ [("sign", cloudSign endpoint body)]).find? (fun kv => kv.1 = "sign") =
      some ("sign", cloudSign endpoint body) := by
    rw [List.find?_append, List.find?_eq_none.mpr fun x hx => by simpa using hns x hx]; rfl
  have hfilter : (body ++ [("sign", cloudSign endpoint body)]).filter (fun kv => kv.1 ≠ "sign") = body := by
    rw [List.filter_append, List.filter_eq_self.mpr fun x hx => by simpa using hns x hx]; simp
  unfold apiRequest Spec.Cloud.verifySign
  rw [hfind, hfilter]
  simp only [decide_eq_true_eq]
  unfold cloudSign Spec.Cloud.expectedSign canonical
  rw [sort_agree body hnd, appKey_agree]
  rfl

/-- the password sent at login is the derivation the server expects -/
theorem password_verifies (loginId password : String) :
    encryptPassword loginId password = Spec.Cloud.expectedPassword loginId password := by
  unfold encryptPassword Spec.Cloud.expectedPassword
  rw [appKey_agree]; rfl

/-- the session id issued by the server is echoed in every later request body -/
theorem session_id_echoed (sid dev stamp : String) (data : Fields) (hd : ∀ kv ∈ data, kv.1 ≠ "sessionId") :
    ("sessionId", sid) ∈ buildBody sid dev stamp data := by
  unfold buildBody
  generalize hacc : [("appId", Generated.appId), _, _, _, _, _, _, ("sessionId", sid)] = acc
  have hm : ("sessionId", sid) ∈ acc := by rw [← hacc]; simp
  clear hacc
  induction data generalizing acc with
  | nil => exact hm
  | cons kv t ih =>
    refine ih (fun x hx => hd x (List.mem_cons_of_mem _ hx)) _ (List.mem_append_left _ (List.mem_filter.mpr ⟨hm, ?_⟩))
    simpa using Ne.symm (hd kv List.mem_cons_self)

/-- **C19 (exact match).** The credentials returned are those of the first list entry whose udpId
    equals the requested one — and a cloud error when there is none: never another entry's. -/
theorem token_exact_match (tl : List (String × String × String)) (u t k : String) :
    getToken tl u = .ok (t, k) ↔ ∃ e, tl.find? (fun e => e.1 = u) = some e ∧ e.2.1 = t ∧ e.2.2 = k := by
  unfold getToken
  cases h : tl.find? (fun e => decide (e.1 = u)) with
  | none => simp
  | some e => simp [Prod.ext_iff]

theorem token_entry_matches (tl : List (String × String × String)) (u t k : String)
    (h : getToken tl u = .ok (t, k)) : (u, t, k) ∈ tl := by
  obtain ⟨⟨a, b, c⟩, hf, rfl, rfl⟩ := (token_exact_match tl u _ _).mp h
  obtain rfl : a = u := by simpa using List.find?_some hf
  exact List.mem_of_find?_eq_some hf

theorem token_absent (tl : List (String × String × String)) (u : String) (h : ∀ e ∈ tl, e.1 ≠ u) :
    getToken tl u = .error .cloud := by
  rw [getToken, List.find?_eq_none.mpr fun x hx => by simpa using h x hx]

/-- **C19 (retry bound).** For EVERY sequence of timeouts / HTTP errors / API error codes the
    request is attempted at most `retries` times; timeouts, HTTP errors and API errors surface as
    cloud errors. -/
theorem post_retry_bound {α} (answers : Nat → Attempt α) (retries used : Nat) :
    (postRequest answers retries used).2 ≤ used + retries ∧
    (∀ e, (postRequest answers retries used).1 = .error e → e = .cloud) := by
  fun_induction postRequest answers retries used with
  | case5 n used _ _ ih => exact ⟨by omega, ih.2⟩
  | _ => simp

/-- all attempts time out: exactly `retries` attempts, then a cloud error -/
theorem post_all_timeouts {α} (retries : Nat) (h : 0 < retries) (used : Nat) :
    postRequest (fun _ => (Attempt.timeout : Attempt α)) retries used = (.error .cloud, used + retries) := by
  fun_induction postRequest (fun _ => (Attempt.timeout : Attempt α)) retries used with
  | case1 => cases h
  | case5 n used _ hn ih => rw [ih (by omega)]; congr 1; omega
  | case6 n used _ hn =>
    obtain rfl : n = 0 := by omega
    rfl
  | _ => contradiction

/-- **C19 (either byte order).** With a service that answers every udpid query with matching
    credentials (what the real service does), the device ends up authenticated with the credentials
    registered for whichever of udpid(LE id), udpid(BE id) it accepts — little-endian tried first. -/
theorem two_endian_auth (id : Nat) (cloud : String → R (String × String)) (acc : String → String → Bool)
    (tl kl tb kb : String)
    (hl : cloud (hexOf (udpid (Py.toLE 6 id))) = .ok (tl, kl))
    (hb : cloud (hexOf (udpid (Py.toBE 6 id))) = .ok (tb, kb)) :
    authenticateDevice id cloud acc =
      if acc tl kl then .ok (some (tl, kl)) else if acc tb kb then .ok (some (tb, kb)) else .ok none := by
  unfold authenticateDevice
  rw [hl]; simp only
  split
  · rfl
  · rw [hb]

/-- recorded limitation: a cloud error on the first query aborts without trying the other order -/
theorem first_query_error_aborts (id : Nat) (cloud : String → R (String × String)) (acc : String → String → Bool)
    (e : Err) (hl : cloud (hexOf (udpid (Py.toLE 6 id))) = .error e) :
    authenticateDevice id cloud acc = .error e := by
  unfold authenticateDevice; rw [hl]

/-! non-vacuity -/
example : getToken [("a", "t1", "k1"), ("b", "t2", "k2"), ("b", "t3", "k3")] "b" = .ok ("t2", "k2") := by
  rw [token_exact_match]; exact ⟨("b", "t2", "k2"), by decide, rfl, rfl⟩

end Msmart.Props.C19
