/-
  C01 about the code AS TRANSLATED from the source text (tie by translation, DESIGN §3.1b): from the attributes of the
  device object to the bytes handed to the V2 transport, every step is the translated function —
  `AirConditioner.apply` (attribute mapping), `SetStateCommand.tobytes`, `Command.tobytes`, `crc8.calculate`,
  `Frame.tobytes`, `Frame.checksum`, `_Packet.encode` — and the result is what the independent device decodes to the
  requested state.  (The message id is the value `Command._next_message_id` returns, modelled; the timestamp is an input.)
  Likewise apply on V3 (translated `_LanProtocolV3.write`) and the refresh direction on V2 and V3: the translated
  `data_received` loop body, `_process_packet`, `_Packet.decode`, `Response._construct`, `StateResponse._parse` and the
  `StateResponse` arm of `_update_state`.
-/
import Msmart.Props.C01Layers
import Msmart.Lemmas.CodecEqLan
import Msmart.Props.C07Code

namespace Msmart.Props.C01
open Msmart.Model Msmart.Lemmas

/-- `apply()` → `SetStateCommand.tobytes` → `Command.tobytes` → `Frame.tobytes` → `_Packet.encode`, all as translated -/
def applyWireCode (d : Dev) (counter : Nat) (id : Nat) (ts : Bytes) : R Bytes := do
  let body ← CodecEq.applyThenTobytes d
  let payload ← Generated.Codec.commandPayload body ((((nextMessageId counter).2).toNat : Nat) : Int)
  let frame ← Generated.Codec.frameTobytes ((devTypeAC).toNat : Int) 0 ((ftControl).toNat : Int) payload
  Generated.Codec.packetEncode (id : Int) frame ts

theorem applyWireCode_eq (d : Dev) (counter : Nat) (id : Nat) (ts : Bytes) :
    applyWireCode d counter id ts =
      (((Cmd.setState (setStateOfDev d)).toBytes counter).1 >>= fun frame => packetEncode id ts frame) := by
  unfold applyWireCode Cmd.toBytes
  rw [CodecEq.applyThenTobytes_eq]
  cases hb : setStateBody (setStateOfDev d) with
  | error e => simp [Cmd.body, hb, bind, Except.bind]
  | ok body =>
    simp only [Cmd.body, hb, CodecEq.ok_bind, CodecEq.commandPayload_eq, CodecEq.frameTobytes_eq, CodecEq.packetEncode_eq,
      C02.packetEncodeI_nat]
    rfl

/-- **C01 (apply, V2) about the translated code.** For every settable state, device id, timestamp and counter value the
    bytes the TRANSLATED pipeline hands to the transport are decoded by the independent implementation to the same id and
    a well-formed control frame whose body the device reads as exactly the requested state. -/
theorem e2e_apply_v2_code (s : Spec.DevState) (hv : s.Valid) (id : Nat) (hid : id < 2 ^ 64) (ts : Bytes)
    (hts : ts.length = 8) (counter : Nat) :
    ∃ frame wire body,
      applyWireCode (C10.devOf s) counter id ts = .ok wire ∧
      Spec.V2.decode wire = some (id, frame) ∧
      Spec.parseFrame frame = some ⟨0xAC, Spec.ftControl, body, ((counter + 1) % 256).toUInt8⟩ ∧
      Spec.decodeSetState body = some s := by
  obtain ⟨frame, wire, body, hf, hw, hd, hp, hs⟩ := e2e_apply_v2 s hv id hid ts hts counter
  refine ⟨frame, wire, body, ?_, hd, hp, hs⟩
  rw [applyWireCode_eq, hf, CodecEq.ok_bind, hw]

/-- the translated `StateResponse._parse` on the status payload of a device -/
theorem parseStateCode_status (s : Spec.DevState) (hv : s.Valid) (disp filt : Bool) (ir orr dg mid : UInt8) :
    Generated.Codec.parseState (Spec.statusPayload s disp filt ir orr dg mid) =
      .ok (Generated.Codec.StateAttrs.ofModel (reportOf s disp filt ir orr dg)) := by
  rw [CodecEq.parseState_eq, status_roundtrip s hv]; rfl

/-- **C01 (refresh, V2) about the translated code.** For every device state, reply frame style, id and timestamp: the
    translated `_Packet.decode` recovers the frame the device sent, the translated `Frame.validate` accepts it, and the
    translated `StateResponse._parse` yields the attributes the model decodes (`status_roundtrip`: those of the device's
    state) - which a fresh client exposes. -/
theorem e2e_refresh_v2_code (s : Spec.DevState) (hv : s.Valid) (disp filt : Bool) (ir orr dg mid ft proto : UInt8)
    (style : Spec.CheckStyle) (id : Nat) (ts filler : Bytes) (hts : ts.length = 8) (hfl : filler.length = 12) :
    ∃ frame st,
      Generated.Codec.packetDecode (Spec.V2.encode id ts filler (Spec.respFrame ft proto style (Spec.statusPayload s disp filt ir orr dg mid)))
        = .ok frame ∧
      construct frame = .ok (.state st) ∧
      Generated.Codec.parseState (Spec.statusPayload s disp filt ir orr dg mid) = .ok (Generated.Codec.StateAttrs.ofModel st) ∧
      (({} : Dev).updateFromState st).power = s.power ∧
      (({} : Dev).updateFromState st).tempCenti = (s.tempHalf : Int) * 50 ∧
      (({} : Dev).updateFromState st).fan = (s.fan : Int) ∧
      (({} : Dev).updateFromState st).auxMode = s.aux :=
  ⟨_, _, (CodecEq.packetDecode_eq _).trans
      (C02.v2_decode_spec_encode _ ts filler id hts hfl (C02.small_frames_fit _ (status_frame_small ..))),
    construct_status_frame s hv disp filt ir orr dg mid ft proto style, parseStateCode_status s hv disp filt ir orr dg mid,
    rfl, rfl, rfl, auxMode_reportOf s hv disp filt ir orr dg _⟩

/-- the translated dispatch on a device-built frame: the class of the payload, and exactly the payload -/
theorem constructDispatch_respFrame (ft proto : UInt8) (style : Spec.CheckStyle) (p : Bytes) (hp : 4 ≤ p.length) :
    Generated.Codec.constructDispatch (Spec.respFrame ft proto style p) =
      (classOfPayload ft p >>= fun cls => pure (cls.tag, p)) := by
  simp only [CodecEq.constructDispatch_eq, constructDispatch, respFrame_valid, respClass_respFrame _ _ _ _ hp,
    validateUnlessProps_respFrame, respFrame_payload]
  rfl

/-- **C01 (refresh, V3) about the translated code.** For every device state, check style, id, timestamp, session key,
    counter, pad bytes and EVERY segmentation of the reply: the translated loop body of `data_received`, iterated, queues
    exactly the one packet; the translated `_process_packet` decrypts it to the V2 packet; the translated `_Packet.decode`
    recovers the frame; the translated `Response._construct` accepts it and hands the status payload to the state class;
    the translated `StateResponse._parse` yields the attributes the model decodes - which a fresh client exposes as exactly
    the device's state. -/
theorem e2e_refresh_v3_code (s : Spec.DevState) (hv : s.Valid) (disp filt : Bool) (ir orr dg mid ft proto : UInt8)
    (style : Spec.CheckStyle) (id : Nat) (ts filler key padBytes : Bytes) (ctr : Nat)
    (hts : ts.length = 8) (hfl : filler.length = 12)
    (hpl : padBytes.length = Spec.V3.padOf
      (Spec.V2.encode id ts filler (Spec.respFrame ft proto style (Spec.statusPayload s disp filt ir orr dg mid))).length)
    (segs : List Bytes)
    (hsegs : segs.flatten = Spec.V3.encodeEncrypted key 3 ctr
      (Spec.V2.encode id ts filler (Spec.respFrame ft proto style (Spec.statusPayload s disp filt ir orr dg mid))) padBytes) :
    ∃ pkt v2 frame st,
      C04.feedAllCode [] segs = .ok ([pkt], []) ∧
      Generated.Codec.processPacket (some key) pkt = .ok v2 ∧
      Generated.Codec.packetDecode v2 = .ok frame ∧
      Generated.Codec.constructDispatch frame = .ok (1, Spec.statusPayload s disp filt ir orr dg mid) ∧
      Generated.Codec.parseState (Spec.statusPayload s disp filt ir orr dg mid) = .ok (Generated.Codec.StateAttrs.ofModel st) ∧
      (({} : Dev).updateFromState st).power = s.power ∧
      (({} : Dev).updateFromState st).tempCenti = (s.tempHalf : Int) * 50 ∧
      (({} : Dev).updateFromState st).fan = (s.fan : Int) ∧
      (({} : Dev).updateFromState st).auxMode = s.aux ∧
      (({} : Dev).updateFromState st).displayOn = disp := by
  obtain ⟨hq, hp, hd⟩ := v3_reply_chain (Spec.respFrame ft proto style (Spec.statusPayload s disp filt ir orr dg mid))
    (status_frame_small ..) id ts filler key padBytes ctr hts hfl hpl
  refine ⟨_, _, _, _, ?_, (CodecEq.processPacket_eq _ _).trans hp, (CodecEq.packetDecode_eq _).trans hd, ?_,
    parseStateCode_status s hv disp filt ir orr dg mid, rfl, rfl, rfl, auxMode_reportOf s hv disp filt ir orr dg _, rfl⟩
  · rw [C04.feedAllCode_eq, C04.segmentation_independent segs [] C04.stable_nil, List.nil_append, hsegs, hq]
  · -- the status payload begins with 0xC0, the id of the state class (tag 1)
    rw [constructDispatch_respFrame ft proto style _ (Nat.le_of_ble_eq_true rfl)]
    rfl

/-- **C01 (apply, V3) about the translated code.** … and on a V3 connection the translated `_LanProtocolV3.write` turns that
    V2 packet, under ANY session key, 12-bit counter and pad bytes, into a packet the independent V3 decoder recovers it from
    (with that counter), and leaves the counter incremented modulo 4096. -/
theorem e2e_apply_v3_code (wire key padBytes : Bytes) (pid : Nat) (hp : pid < 4096)
    (hpl : padBytes.length = v3Pad wire.length) (hsz : wire.length + v3Pad wire.length + 32 < 65536) :
    ∃ pkt, Generated.Codec.writeV3 (some key) (pid : Int) wire 6 padBytes = .ok (pkt, (((pid + 1) % 4096 : Nat) : Int)) ∧
      Spec.V3.decodeEncrypted key pkt = some ⟨6, pid, wire⟩ :=
  C07.write_data_code key wire padBytes pid hp hpl hsz

/-- **C01 (refresh) about the translated code, last step.** The attributes `e2e_refresh_v3_code` / `e2e_refresh_v2_code` obtain from
    the translated `_parse` (`StateAttrs.ofModel st`), handed to the translated `StateResponse` arm of `_update_state` on a FRESH
    client (constructor defaults: custom fan speeds supported), are the attributes of `({} : Dev).updateFromState st` - the record
    whose fields those theorems equate with the device's state. -/
theorem refresh_update_fresh_code (st : StateResp) :
    CodecEq.updateOfAttrs true (Generated.Codec.StateAttrs.ofModel st) =
      Generated.Codec.UpdAttrs.ofDev (({} : Dev).updateFromState st) := by
  rw [CodecEq.updateOfAttrs_ofModel]; rfl

end Msmart.Props.C01
