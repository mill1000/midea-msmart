/-
  C11 — state responses decode to exactly the reported state; temperature facts.
-/
import Msmart.Lemmas.RespFrame
import Msmart.Lemmas.CodecEq

namespace Msmart.Props.C11
open Msmart.Model Msmart.Lemmas

/-- truncation toward zero written with the floor division `omega` knows -/
theorem tdiv_two (x : Int) : x.tdiv 2 = if 0 ≤ x then x / 2 else -(-x / 2) := by
  split
  · exact Int.tdiv_eq_ediv_of_nonneg ‹_›
  · have := Int.neg_tdiv (-x) 2
    rw [Int.neg_neg] at this
    rw [this, Int.tdiv_eq_ediv_of_nonneg (by omega)]

theorem parseTemp_eq_none (b d : Nat) (f : Bool) : parseTemp b d f = none ↔ b = 0xFF := by
  unfold parseTemp
  by_cases h : b = 0xFF
  · rw [if_pos h]; exact iff_of_true rfl h
  · rw [if_neg h]
    refine iff_of_false ?_ h
    split
    · nofun
    · split <;> nofun

/-- **C11.** Indoor / outdoor temperature is unknown exactly for the 0xFF sentinel. -/
theorem temp_unknown_iff : ∀ b, b < 256 → ∀ d, d < 16 → ∀ f : Bool,
    (parseTemp b d f = none ↔ b = 0xFF) := fun b _ d _ f => parseTemp_eq_none b d f

/-- **C11.** Otherwise, for every tenths digit 0..9 and both units, the reading lies strictly within
    one degree of the coarse half-degree reading `(b − 50) / 2` (values in tenths of a degree). -/
theorem temp_within_one : ∀ b, b < 255 → ∀ d, d < 10 → ∀ f : Bool,
    ∃ r, parseTemp b d f = some r ∧ 5 * ((b : Int) - 50) - 10 < r ∧ r < 5 * ((b : Int) - 50) + 10 := by
  intro b hb d hd f
  unfold parseTemp
  rw [if_neg (by omega), tdiv_two]
  split
  · exact ⟨_, rfl, by omega⟩
  · split
    · exact ⟨_, rfl, by omega⟩
    · exact ⟨_, rfl, by omega⟩

theorem parseTemp_celsius_digit (b d : Nat) (hb : b ≠ 0xFF) (hd : d ≠ 0) :
    parseTemp b d false =
      some (10 * Int.tdiv ((b : Int) - 50) 2 + (if 50 ≤ b then (d : Int) else -(d : Int))) := by
  unfold parseTemp
  rw [if_neg hb, if_pos (by simpa using hd)]

/-- **C11.** In Celsius a non-zero reported tenths digit is reflected exactly: the reading is the
    truncated coarse reading plus (minus, for negative readings) `d / 10`. -/
theorem temp_tenths_exact : ∀ b, b < 255 → ∀ d, d < 10 → 0 < d →
    parseTemp b d false =
      some (10 * Int.tdiv ((b : Int) - 50) 2 + (if 50 ≤ b then (d : Int) else -(d : Int))) :=
  fun b hb d _ hd => parseTemp_celsius_digit b d (by omega) (by omega)

theorem shr5_mod8 (b : UInt8) : (b >>> 5).toNat % 8 = (b >>> 5).toNat := by
  rw [UInt8.toNat_shiftRight, Nat.shiftRight_eq_div_pow]
  exact Nat.mod_eq_of_lt (Nat.div_lt_of_lt_mul b.toNat_lt)

theorem stateTemp_eq (b2 b13 : UInt8) : stateTemp b2 b13 = (Spec.setpointHalf b2 b13 : Int) * 50 := by
  unfold stateTemp Spec.setpointHalf bit Spec.tb
  split <;> split <;> omega

/-- the aux-heat mode the device object derives from the two aux bits -/
def auxOf (s : StateResp) : Nat := if s.indepAuxHeat then 2 else if s.auxHeat then 1 else 0

/-- **C11 (decode).** For every status payload of at least the 16-byte minimum, `StateResponse`
    succeeds and every field equals the vendor-layout meaning of the payload; the optional trailing
    fields are `none` exactly when the payload is too short to carry them (never invented). -/
theorem state_decode (p : Bytes) (h16 : 16 ≤ p.length) :
    ∃ s, parseState p = .ok s ∧
      s.power = (Spec.reportedOf p).power ∧
      s.tempCenti = ((Spec.reportedOf p).tempHalf : Int) * 50 ∧
      s.mode = (Spec.reportedOf p).mode ∧
      s.fan = (Spec.reportedOf p).fan ∧
      s.swing = (Spec.reportedOf p).swing ∧
      s.turbo = (Spec.reportedOf p).turbo ∧
      s.eco = (Spec.reportedOf p).eco ∧
      s.sleep = (Spec.reportedOf p).sleep ∧
      s.fahrenheit = (Spec.reportedOf p).fahrenheit ∧
      s.filterAlert = (Spec.reportedOf p).filterAlert ∧
      s.displayOn = (Spec.reportedOf p).displayOn ∧
      s.followMe = (Spec.reportedOf p).followMe ∧
      s.purifier = (Spec.reportedOf p).purifier ∧
      auxOf s = (Spec.reportedOf p).aux ∧
      s.humidity = (Spec.reportedOf p).humidity ∧
      s.freeze = (Spec.reportedOf p).freeze ∧
      s.indoor = parseTemp (Spec.reportedOf p).indoorRaw (Spec.reportedOf p).indoorDigit (Spec.reportedOf p).fahrenheit ∧
      s.outdoor = parseTemp (Spec.reportedOf p).outdoorRaw (Spec.reportedOf p).outdoorDigit (Spec.reportedOf p).fahrenheit := by
  -- every unconditional read succeeds with `Spec.byteAt`; then all fields but four agree by unfolding
  have hi (i : Nat) (h : i < 16) : Py.idx p i = .ok (p.getD i 0) := idx_lt (by omega)
  refine ⟨_, by simp only [parseState, hi, Nat.reduceLT]; rfl, rfl, stateTemp_eq _ _, shr5_mod8 _, rfl, rfl, rfl, rfl,
    rfl, rfl, rfl, rfl, rfl, rfl, rfl, ?_, ?_, rfl, rfl⟩
  all_goals
    simp only [Spec.reportedOf]
    split
    · rfl
    · rw [getElem?_getD (by omega)]; rfl

/-- **C11 (too short).** Below the 16-byte minimum the response is not decoded at all (after the
    repair e1e5d79 the frame is reported as an invalid response instead of raising IndexError). -/
theorem state_too_short (p : Bytes) (h : p.length < 16) : parseState p = .error indexError := by
  unfold parseState
  -- eight reads that can only raise IndexError, then `p[15]`
  iterate 8 refine OnlyIdx.bind_err (idx_onlyIdx _ _) fun _ => ?_
  rw [idx_ge (by omega)]; rfl

/-- **C11 (exposed attributes).** After `_update_state`, a device object (any, in particular a
    fresh one) exposes exactly the decoded values; mode and swing go through the enumerations (an
    unlisted raw value falls back to the enumeration's default), custom fan speeds are kept raw. -/
theorem update_exposes (d : Dev) (s : StateResp) (hc : d.supCustomFan = true) :
    let d' := d.updateFromState s
    d'.power = s.power ∧ d'.tempCenti = s.tempCenti ∧ d'.fan = (s.fan : Int) ∧
    d'.eco = s.eco ∧ d'.turbo = s.turbo ∧ d'.sleep = s.sleep ∧ d'.fahrenheit = s.fahrenheit ∧
    d'.freeze = s.freeze ∧ d'.humidity = s.humidity ∧ d'.indoor = s.indoor ∧ d'.outdoor = s.outdoor ∧
    d'.displayOn = s.displayOn ∧ d'.filterAlert = s.filterAlert ∧ d'.followMe = s.followMe ∧
    d'.purifier = s.purifier ∧ d'.auxMode = auxOf s ∧
    ((enumValues Generated.operationalMode).contains s.mode → d'.mode = s.mode) ∧
    ((enumValues Generated.swingMode).contains s.swing → d'.swing = s.swing) := by
  simp only [Dev.updateFromState, hc, ↓reduceIte, auxOf, enumGet, true_and]
  constructor
  · intro h; rw [if_pos h]
  · intro h; rw [if_pos h]

/-- **C11 (frame level).** A device-built frame (either check style, any frame type and protocol
    byte) around a status payload of at least 16 bytes is decoded as that status. -/
theorem construct_state_frame (ft proto : UInt8) (style : Spec.CheckStyle) (t : Bytes)
    (h15 : 15 ≤ t.length) :
    construct (Spec.respFrame ft proto style (0xC0 :: t)) = (parseState (0xC0 :: t)).map .state := by
  unfold construct
  rw [constructInner_respFrame _ _ _ _ (by simp; omega)]
  obtain ⟨s, hs, _⟩ := state_decode (0xC0 :: t) (by simp; omega)
  simp [classOfPayload, Py.idx, bind, Except.bind, pure, Except.pure, buildResp, hs, Except.map]

/-! ### the same statements about the code as translated from the source text (tie by translation) -/

/-- **C11 about the translated `StateResponse._parse_temperature`** (arguments as the translated `_parse` passes them:
    the raw byte and the nibble/10 in hundredths): unknown exactly for the 0xFF sentinel. -/
theorem temp_unknown_iff_code (b : Nat) (hb : b < 256) (d : Nat) (hd : d < 16) (f : Bool) :
    (Generated.Codec.parseTemperature (b : Int) (10 * (d : Int)) f = none ↔ b = 0xFF) := by
  rw [CodecEq.parseTemperature_eq_nat b hb d hd f, Option.map_eq_none_iff]
  exact temp_unknown_iff b hb d hd f

/-- **C11 about the translated code**: within one degree of the coarse reading (values in hundredths). -/
theorem temp_within_one_code (b : Nat) (hb : b < 255) (d : Nat) (hd : d < 10) (f : Bool) :
    ∃ r, Generated.Codec.parseTemperature (b : Int) (10 * (d : Int)) f = some r ∧
      50 * ((b : Int) - 50) - 100 < r ∧ r < 50 * ((b : Int) - 50) + 100 := by
  obtain ⟨r, hr, h1, h2⟩ := temp_within_one b hb d hd f
  refine ⟨r * 10, ?_, by omega, by omega⟩
  rw [CodecEq.parseTemperature_eq_nat b (by omega) d (by omega) f, hr]; rfl

/-- **C11 about the translated code**: in Celsius a non-zero tenths digit is reflected exactly (hundredths). -/
theorem temp_tenths_exact_code (b : Nat) (hb : b < 255) (d : Nat) (hd : d < 10) (hpos : 0 < d) :
    Generated.Codec.parseTemperature (b : Int) (10 * (d : Int)) false =
      some (100 * Int.tdiv ((b : Int) - 50) 2 + (if 50 ≤ b then 10 * (d : Int) else -(10 * (d : Int)))) := by
  rw [CodecEq.parseTemperature_eq_nat b (by omega) d (by omega) false, temp_tenths_exact b hb d hd hpos]
  simp only [Option.map_some]
  congr 1
  split <;> omega

/-- **C11 about the translated `StateResponse._parse`**: for every payload of at least 16 bytes it succeeds with the
    attributes of the decoded status (the record the model theorem `state_decode` characterises field by field
    against the vendor layout), and below 16 bytes it fails like the model. -/
theorem state_decode_code (p : Bytes) :
    Generated.Codec.parseState p = (parseState p >>= fun m => pure (Generated.Codec.StateAttrs.ofModel m)) :=
  CodecEq.parseState_eq p

theorem state_decode_code_ok (p : Bytes) (h16 : 16 ≤ p.length) :
    ∃ s, parseState p = .ok s ∧ Generated.Codec.parseState p = .ok (Generated.Codec.StateAttrs.ofModel s) := by
  obtain ⟨s, hs, _⟩ := state_decode p h16
  exact ⟨s, hs, by rw [CodecEq.parseState_eq, hs]; rfl⟩

/-! non-vacuity: a captured frame from the repo's tests -/
example : (parseState [0xc0,1,0x45,0x66,0,0,0,0x30,0,0x10,4,0x5c,0xff,0x20,0x70,0,0,0,0,0,0,0,0]).toBool = true := by
  decide +kernel

/-- **C11 about the translated `StateResponse._parse` AND `AirConditioner._update_state`**: for every payload the parser
    accepts, the attributes the translated `_update_state` assigns from the translated parser's result are those of the model's
    `updateFromState` on the decoded status (whose fields `state_decode` characterises against the vendor layout) - enum members as
    their int values, temperatures in hundredths, for both values of `supports_custom_fan_speed`. -/
theorem refresh_assigns_code (p : Bytes) (st : StateResp) (hp : parseState p = .ok st) (sup : Bool) :
    ∃ a, Generated.Codec.parseState p = .ok a ∧
      CodecEq.updateOfAttrs sup a = Generated.Codec.UpdAttrs.ofDev (({ supCustomFan := sup } : Dev).updateFromState st) := by
  refine ⟨Generated.Codec.StateAttrs.ofModel st, ?_, ?_⟩
  · rw [CodecEq.parseState_eq, hp]; rfl
  · rw [CodecEq.updateOfAttrs_ofModel]; rfl

end Msmart.Props.C11
