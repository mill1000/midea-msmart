/-
  C01 / C08 capstone over the whole stack: from ANY state of the `LAN` object whose connection is dead
  (where a timeout, protocol error, peer close / reset, refused or hanging connect, or cancellation
  leaves it), against the independent V3 device specification answering promptly, a fresh client's
  `refresh()` — command encoding, V2 framing, reconnect, handshake, V3 encryption, reassembly,
  decryption, frame validation, state decoding, attribute update — returns normally, reports the
  device online and exposes exactly the device's state.
-/
import Msmart.Props.C08
import Msmart.Props.C09

namespace Msmart.Props.C01
open Msmart.Model Msmart.Model.Session Msmart.Model.Stack Msmart.Lemmas.Sess

theorem refresh_after_failure_reports_device_state {p : Params} {rx : Reactions} {s : S} (counter : Nat)
    (cs : List ConnOutcome) (tok key nonce : Bytes)
    (hver : s.l.version = 3) (hal : connAlive s = false) (hquiet : s.w.pending = []) (hnc : s.w.cancelAt = none)
    (hconn : s.w.connects = .ok :: cs) (hexp : FreshExpiryOk s)
    (htok : s.l.token = some tok) (hkey : s.l.key = some key)
    (htok' : tok.isEmpty = false ∧ tok.length < 65536) (hk32 : key.length = 32) (hn32 : nonce.length = 32)
    (d0 ctr0 : Nat) (hd0 : d0 ≤ p.readTimeout)
    (hrx0 : rx (s.w.nConn + 1) 0 = [(d0, .data (Spec.V3.handshakeReply key nonce ctr0))])
    (st : Spec.DevState) (hv : st.Valid) (disp filt : Bool) (ir orr dg mid ft proto : UInt8) (style : Spec.CheckStyle)
    (d1 ctr1 id : Nat) (ts filler padBytes : Bytes) (hd1 : d1 ≤ p.readTimeout)
    (hts : ts.length = 8) (hfl : filler.length = 12)
    (hpl : padBytes.length = Spec.V3.padOf (Spec.V2.encode id ts filler
        (Spec.respFrame ft proto style (Spec.statusPayload st disp filt ir orr dg mid))).length)
    (hrx1 : rx (s.w.nConn + 1) 1 = [(d1, .data (Spec.V3.encodeEncrypted (Spec.V3.sessionKey key nonce) 3 ctr1
        (Spec.V2.encode id ts filler (Spec.respFrame ft proto style (Spec.statusPayload st disp filt ir orr dg mid)))
        padBytes))]) :
    ∃ r', (refreshLan p rx { dev := {}, counter := counter, replies := [] } s).1 = .ok r' ∧
      r'.dev.online = true ∧ r'.dev.power = st.power ∧ r'.dev.tempCenti = (st.tempHalf : Int) * 50 ∧
      r'.dev.fan = (st.fan : Int) ∧ r'.dev.auxMode = st.aux ∧ r'.dev.displayOn = disp := by
  -- the single command of a fresh client's refresh
  obtain ⟨frame, hframe⟩ := C12.command_emitted Cmd.getState counter _ rfl (by decide)
  -- the device's response frame and what it decodes to
  have hcons := construct_status_frame st hv disp filt ir orr dg mid ft proto style
  have hrlen := status_frame_small st disp filt ir orr dg mid ft proto style
  generalize Spec.respFrame ft proto style (Spec.statusPayload st disp filt ir orr dg mid) = resp at *
  -- the exchange: reconnect, handshake, one transmission, the device's frame (C08)
  obtain ⟨s', hsend, _⟩ := C08.recovery_v3_honest_device (p := p) (rx := rx) (s := s) frame 2 cs tok key nonce hver hal hquiet hnc
    hconn hexp htok hkey htok' hk32 hn32 d0 ctr0 hd0 hrx0 d1 ctr1 id ts filler padBytes resp hd1 hts hfl hrlen hpl hrx1
  have hdev : deviceSend p rx s frame = (.ok [resp], s') := by
    unfold deviceSend
    rw [show Generated.lanRetries = 2 + 1 from rfl, hsend]
  let r1 : Run := { dev := { ({} : Dev) with supported := true }, counter := (Cmd.getState.toBytes counter).2,
                    replies := [], sent := [Cmd.getState] }
  have hres : (refreshLan p rx { dev := {}, counter := counter, replies := [] } s).1 =
      .ok { r1 with dev := applyResponses { r1.dev with online := true } [.state (reportOf st disp filt ir orr dg)] } := by
    unfold refreshLan
    have hcmds : refreshCommands ({} : Dev) = [Cmd.getState] := by decide
    simp only [hcmds, sendAllLan, sendGetLan, hframe, hdev, sendGet, List.headD_cons,
      C14.constructAll_decodable, List.filterMap_cons, hcons, Except.toOption, List.filterMap_nil,
      List.append_nil]
    rfl
  exact ⟨_, hres, rfl, rfl, rfl, rfl, auxMode_reportOf st hv disp filt ir orr dg _, rfl⟩

end Msmart.Props.C01
