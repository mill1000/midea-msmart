/-
  C13 — corrupted responses are rejected and never change state.
-/
import Msmart.Lemmas.CodecEqLan
import Msmart.Lemmas.RespFrame
import Msmart.Props.C14
import Msmart.Lemmas.CodecEq

namespace Msmart.Props.C13
open Msmart.Model Msmart.Lemmas

theorem frameValidate_snoc_ok {s cs : UInt8} {rest : Bytes} :
    frameValidate (s :: (rest ++ [cs])) = .ok () ↔ checksum rest = cs := by
  rw [frameValidate_snoc]; split <;> simp [*]

/-- **C13 (outer checksum).** Substituting any single byte after the start byte — header, body,
    or the check byte — of a frame whose checksum is valid gives a frame `Frame.validate` rejects.
    `s` is the start byte, `pre ++ [x] ++ post` the rest before the checksum `cs`. -/
theorem outer_checksum_detects (s x y cs : UInt8) (pre post : Bytes) (hxy : x ≠ y)
    (hvalid : frameValidate (s :: ((pre ++ [x] ++ post) ++ [cs])) = .ok ()) :
    frameValidate (s :: ((pre ++ [y] ++ post) ++ [cs])) = .error .invalidFrame := by
  rw [frameValidate_snoc, if_neg]
  exact fun h => hxy (checksum_single_byte pre post x y ((frameValidate_snoc_ok.mp hvalid).trans h.symm))

/-- … and substituting the checksum byte itself is rejected too -/
theorem outer_checksum_byte_detects (s cs cs' : UInt8) (rest : Bytes) (hne : cs ≠ cs')
    (hvalid : frameValidate (s :: (rest ++ [cs])) = .ok ()) :
    frameValidate (s :: (rest ++ [cs'])) = .error .invalidFrame := by
  rw [frameValidate_snoc, if_neg]
  exact fun h => hne ((frameValidate_snoc_ok.mp hvalid).symm.trans h)

/-- **C13 about the translated `Frame.validate`** (`Generated/Codec.lean`, regenerated from the source on every run): a
    valid frame with any single byte after the start byte substituted is rejected as an invalid frame. -/
theorem outer_checksum_detects_code (s x y cs : UInt8) (pre post : Bytes) (hxy : x ≠ y)
    (hvalid : Generated.Codec.frameValidate (s :: ((pre ++ [x] ++ post) ++ [cs])) = .ok ()) :
    Generated.Codec.frameValidate (s :: ((pre ++ [y] ++ post) ++ [cs])) = .error .invalidFrame := by
  rw [CodecEq.frameValidate_eq] at hvalid ⊢; exact outer_checksum_detects s x y cs pre post hxy hvalid

theorem outer_checksum_byte_detects_code (s cs cs' : UInt8) (rest : Bytes) (hne : cs ≠ cs')
    (hvalid : Generated.Codec.frameValidate (s :: (rest ++ [cs])) = .ok ()) :
    Generated.Codec.frameValidate (s :: (rest ++ [cs'])) = .error .invalidFrame := by
  rw [CodecEq.frameValidate_eq] at hvalid ⊢; exact outer_checksum_byte_detects s cs cs' rest hne hvalid

/-- … and the translated `crc8.calculate` is sensitive to every single byte -/
theorem crc_single_byte_sensitive_code (a b : Bytes) (x y : UInt8)
    (h : Generated.Codec.crc8Calculate (Py.ints (a ++ [x] ++ b)) = Generated.Codec.crc8Calculate (Py.ints (a ++ [y] ++ b))) : x = y := by
  rw [CodecEq.crc8Calculate_eq, CodecEq.crc8Calculate_eq] at h
  exact crc_single_byte a b x y (UInt8.toNat_inj.mp (by exact_mod_cast h))

/-- single-byte sensitivity of the CRC-8 (from the generated table being a permutation) -/
theorem crc_single_byte_sensitive (a b : Bytes) (x y : UInt8)
    (h : crc8 (a ++ [x] ++ b) = crc8 (a ++ [y] ++ b)) : x = y := crc_single_byte a b x y h

theorem respValidate_ok_iff (body : Bytes) (c : UInt8) :
    respValidate (body ++ [c]) = .ok () ↔ (crc8 body = c ∨ checksum body = c) := by
  rw [respValidate_concat]
  by_cases h1 : crc8 body = c <;> by_cases h2 : checksum body = c <;> simp [h1, h2]

/-- **C13 (inner check, exact acceptance set).** Take a body `a ++ [x] ++ b` with check byte `c`
    that the inner check accepts, and substitute one byte (`y ≠ x`).  The substituted body is
    accepted **only** through the *other* of the two accepted algorithms: if the original matched
    CRC-8 the substitute must match the additive checksum, and vice versa. -/
theorem inner_check_only_other_algorithm (a b : Bytes) (x y c : UInt8) (hxy : x ≠ y)
    (_horig : respValidate (a ++ [x] ++ b ++ [c]) = .ok ())
    (hsub : respValidate (a ++ [y] ++ b ++ [c]) = .ok ()) :
    (crc8 (a ++ [x] ++ b) = c → checksum (a ++ [y] ++ b) = c ∧ crc8 (a ++ [y] ++ b) ≠ c) ∧
    (checksum (a ++ [x] ++ b) = c → crc8 (a ++ [y] ++ b) = c ∧ checksum (a ++ [y] ++ b) ≠ c) := by
  rw [respValidate_ok_iff] at hsub
  refine ⟨fun hc => ?_, fun hs => ?_⟩
  · have hne : crc8 (a ++ [y] ++ b) ≠ c := fun h => hxy (crc_single_byte a b x y (hc.trans h.symm))
    exact ⟨hsub.resolve_left hne, hne⟩
  · have hne : checksum (a ++ [y] ++ b) ≠ c := fun h => hxy (checksum_single_byte a b x y (hs.trans h.symm))
    exact ⟨hsub.resolve_right hne, hne⟩

/-- … and for each position at most ONE substitute value is accepted. -/
theorem inner_check_at_most_one (a b : Bytes) (x y₁ y₂ c : UInt8) (h1 : x ≠ y₁) (h2 : x ≠ y₂)
    (horig : respValidate (a ++ [x] ++ b ++ [c]) = .ok ())
    (hs1 : respValidate (a ++ [y₁] ++ b ++ [c]) = .ok ())
    (hs2 : respValidate (a ++ [y₂] ++ b ++ [c]) = .ok ()) : y₁ = y₂ := by
  have o1 := inner_check_only_other_algorithm a b x y₁ c h1 horig hs1
  have o2 := inner_check_only_other_algorithm a b x y₂ c h2 horig hs2
  rcases (respValidate_ok_iff _ _).mp horig with hc | hs
  · exact checksum_single_byte a b y₁ y₂ ((o1.1 hc).1.trans (o2.1 hc).1.symm)
  · exact crc_single_byte a b y₁ y₂ ((o1.2 hs).1.trans (o2.2 hs).1.symm)

/-- a body that matches BOTH algorithms admits no accepted substitute at all -/
theorem inner_check_both_none (a b : Bytes) (x y c : UInt8) (hxy : x ≠ y)
    (hc : crc8 (a ++ [x] ++ b) = c) (hs : checksum (a ++ [x] ++ b) = c) :
    respValidate (a ++ [y] ++ b ++ [c]) = .error .invalidResponse := by
  rw [respValidate_concat, if_pos]
  exact ⟨fun h => hxy (crc_single_byte a b x y (hc.trans h.symm)),
         fun h => hxy (checksum_single_byte a b x y (hs.trans h.symm))⟩

/-! ### the body check as translated from the source text -/

/-- **C13 about the translated `Response.validate`**: a payload is accepted exactly when its last byte is the CRC-8 or the
    additive checksum of the rest. -/
theorem body_check_code (body : Bytes) (c : UInt8) :
    Generated.Codec.responseValidate (body ++ [c]) = .ok () ↔ (crc8 body = c ∨ checksum body = c) := by
  rw [CodecEq.responseValidate_eq]; exact respValidate_ok_iff body c

/-- **C13 about the translated `Response.validate`**: of all the single-byte substitutions at one position of a payload
    that passed, at most one passes again (and only through the other algorithm). -/
theorem inner_check_at_most_one_code (a b : Bytes) (x y₁ y₂ c : UInt8) (h1 : x ≠ y₁) (h2 : x ≠ y₂)
    (horig : Generated.Codec.responseValidate (a ++ [x] ++ b ++ [c]) = .ok ())
    (hs1 : Generated.Codec.responseValidate (a ++ [y₁] ++ b ++ [c]) = .ok ())
    (hs2 : Generated.Codec.responseValidate (a ++ [y₂] ++ b ++ [c]) = .ok ()) : y₁ = y₂ := by
  rw [CodecEq.responseValidate_eq] at horig hs1 hs2
  exact inner_check_at_most_one a b x y₁ y₂ c h1 h2 horig hs1 hs2

/-- every reply frame of the script is rejected -/
def AllRejected (replies : Replies) : Prop :=
  ∀ reply ∈ replies, ∀ f ∈ reply, ∃ e, construct f = .error e

theorem nextResps_rejected {r : Run} (h : AllRejected r.replies) : C14.nextResps r = [] := by
  rw [C14.nextResps, List.filterMap_eq_nil_iff]
  intro f hf
  cases hr : r.replies with
  | nil => rw [hr] at hf; cases hf
  | cons a t =>
    rw [hr] at hf h
    obtain ⟨e, he⟩ := h a List.mem_cons_self f hf
    rw [he]; rfl

theorem exchangeAll_rejected (cs : List Cmd) (r : Run) (h : AllRejected r.replies) :
    (C14.exchangeAll r cs).2 = [] ∧
      (C14.exchangeAll r cs).1.dev = if cs = [] then r.dev else { r.dev with supported := false } := by
  induction cs generalizing r with
  | nil => exact ⟨rfl, rfl⟩
  | cons c t ih =>
    obtain ⟨h1, h2⟩ := ih (C14.exchange r c).1 fun reply hm => h reply (List.mem_of_mem_drop hm)
    simp only [C14.exchangeAll, C14.exchange, nextResps_rejected h] at h1 h2 ⊢
    refine ⟨h1, ?_⟩
    rw [h2]
    split <;> rfl

/-- **C13 (state).** If every frame of every reply of a refresh is rejected, the device object is
    exactly as before except that it is reported offline and unsupported. -/
theorem rejected_frames_leave_state (r r' : Run) (h : AllRejected r.replies)
    (hr : refresh r = .ok r') :
    r'.dev = { r.dev with online := false, supported := false } := by
  obtain ⟨o, hs, hr⟩ := bind_ok.mp hr
  obtain ⟨h1, h2⟩ := exchangeAll_rejected (refreshCommands r.dev) r h
  rw [← C14.sendAll_inv hs] at h1 h2
  cases hr
  simp [h1, h2, refreshCommands, applyResponses]

/-! non-vacuity: a captured state frame passes the outer check; a reply script that meets `AllRejected` -/
example : (frameValidate [0xaa,0x22,0xac,0,0,0,0,0,3,3,0xc0,1,0x45,0x66,0,0,0,0x30,0,0x10,4,0x5c,0xff,0x20,0x70,0,0,0,0,0,0,0,0x8b,0xed,0x19]).toBool = true := by decide +kernel
example : AllRejected [[[0xaa, 0x00]]] := by
  intro reply hr f hf
  obtain rfl := List.mem_singleton.mp hr
  obtain rfl := List.mem_singleton.mp hf
  exact ⟨_, rfl⟩

/-! ### `Response._construct` as translated: frame check, dispatch, body check -/

/-- **C13 about the translated `Response._construct`**: a frame whose outer checksum does not match is rejected before
    anything else is looked at, with the frame-level error. -/
theorem dispatch_rejects_bad_frame_code (frame : Bytes) (e : Err) (h : frameValidate frame = .error e) :
    Generated.Codec.constructDispatch frame = .error e := by
  rw [CodecEq.constructDispatch_eq]; unfold constructDispatch; rw [h]; rfl

/-- **C13 about the translated `Response._construct`**: whatever it hands to a response class other than the properties
    class has passed the frame check AND the body check, and is the payload `frame[10:-2]`. -/
theorem dispatch_accepts_only_checked_code (frame p : Bytes) (t : Int)
    (h : Generated.Codec.constructDispatch frame = .ok (t, p)) :
    frameValidate frame = .ok () ∧ p = ((frame.drop 10).dropLast).dropLast ∧
      (t = 3 ∨ respValidate ((frame.drop 10).dropLast) = .ok ()) := by
  rw [CodecEq.constructDispatch_eq, constructDispatch] at h
  obtain ⟨_, hv, h⟩ := bind_ok.mp h
  obtain ⟨cls, _, h⟩ := bind_ok.mp h
  obtain ⟨_, hb, h⟩ := bind_ok.mp h
  cases h
  refine ⟨hv, rfl, ?_⟩
  by_cases hp : cls = .props
  · exact .inl (hp ▸ rfl)
  · exact .inr (by rwa [validateUnlessProps, if_pos hp] at hb)

end Msmart.Props.C13
