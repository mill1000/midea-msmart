/-
  C05 — the V3 encrypted packet codec interoperates for every length and is tamper-evident.
  (About the tree repaired by `fix:` 1b0cf51; before it a response needing no padding decoded to
  the empty payload — `pad0_history` below.)
-/
import Msmart.Lemmas.CodecEqLan
import Msmart.Lemmas.V3

namespace Msmart.Props.C05
open Msmart.Model Msmart.Lemmas Msmart.Crypto

/-- the request the library emits is byte for byte what the independent encoder emits (type 6) -/
theorem request_eq_spec (key data padBytes : Bytes) (ctr : Nat)
    (hsz : data.length + v3Pad data.length + 32 < 65536) :
    encodeEncryptedRequest (some key) ctr data padBytes =
      .ok (Spec.V3.encodeEncrypted key 6 ctr data padBytes) := by
  simp only [encodeEncryptedRequest, buildHeader]
  rw [if_neg (by omega)]
  simp only [Spec.V3.encodeEncrypted, Spec.V3.header, toBE2, pad_eq, encryptCbc, iv_eq, ptEncryptedRequest,
    List.append_assoc, List.cons_append, List.nil_append]

/-- the strict independent decoder on header(6) ++ ciphertext ++ tag(32), the header fields telling a payload of `n`
    bytes padded by `pd` -/
theorem spec_decode_layout (key CT : Bytes) (n pd t : Nat) (hs : n + pd + 32 < 65536) (hpd : pd < 16) (ht : t < 16)
    (hCT : CT.length = 2 + n + pd) (hal : (2 + n + pd) % 16 = 0) (hpl : Spec.V3.padOf n = pd) :
    Spec.V3.decodeEncrypted key ((Spec.V3.header (n + pd + 32) pd t ++ CT) ++
        SHA256.sha256 (Spec.V3.header (n + pd + 32) pd t ++ AES.cbcDecrypt key Spec.V3.iv CT)) =
      some ⟨t, Spec.V3.unbe16 ((AES.cbcDecrypt key Spec.V3.iv CT).take 2), ((AES.cbcDecrypt key Spec.V3.iv CT).drop 2).take n⟩ := by
  obtain ⟨hd, hm⟩ := padType pd t hpd ht
  have hsf := unbe16_be16 _ hs
  unfold Spec.V3.be16 at hsf
  unfold Spec.V3.decodeEncrypted
  rw [take_sub_right _ _ (SHA256.sha256_length _), drop_sub_right _ _ (SHA256.sha256_length _),
    List.drop_left' (header_len _ pd t), List.append_assoc, header_append]
  simp only [List.take_succ_cons, List.take_zero, List.drop_succ_cons, List.drop_zero, List.getD_cons_succ,
    List.getD_cons_zero, List.length_cons, List.length_append, SHA256.sha256_length, AES.cbcDecrypt_length, hd, hm, hsf, hCT,
    show 2 + n + pd - 2 - pd = n by rw [Nat.sub_sub, Nat.add_right_comm, Nat.add_sub_cancel_left]]
  rw [if_neg (by omega), if_neg (not_not_intro rfl), if_neg (not_not_intro rfl), if_neg (by omega),
    if_neg (not_not_intro hal), if_neg (not_not_intro (header_append .. ▸ rfl)), if_neg (by omega), if_neg (not_not_intro hpl)]

/-- the strict independent decoder on a spec-encoded packet -/
theorem spec_decode_encode (key data padBytes : Bytes) (ptype ctr : Nat) (hp : ptype < 16) (hc : ctr < 65536)
    (hpl : padBytes.length = Spec.V3.padOf data.length)
    (hsz : data.length + Spec.V3.padOf data.length + 32 < 65536) :
    Spec.V3.decodeEncrypted key (Spec.V3.encodeEncrypted key ptype ctr data padBytes) =
      some ⟨ptype, ctr, data⟩ := by
  have hCl : (AES.cbcEncrypt key Spec.V3.iv (Spec.V3.be16 ctr ++ data ++ padBytes)).length =
      2 + data.length + Spec.V3.padOf data.length := by
    rw [AES.cbcEncrypt_length, List.length_append, List.length_append, hpl]; rfl
  have h := spec_decode_layout key _ _ _ ptype hsz (padOf_lt _) hp hCl (padOf_aligned _) rfl
  rwa [AES.cbcDecrypt_cbcEncrypt, List.append_assoc (Spec.V3.be16 ctr), List.take_left' (i := 2) rfl,
    List.drop_left' (i := 2) rfl, List.take_left, unbe16_be16 _ hc] at h

/-- **C05 (→).** Every payload (every padding amount 0..15), every 32-byte-or-other session key,
    every counter that fits two bytes, any random pad bytes: the request the library emits is
    decoded by the independent implementation to the same payload and counter, with consistent
    size / padding / type header fields and a valid SHA-256 tag. -/
theorem v3_spec_decodes_request (key data padBytes : Bytes) (ctr : Nat) (hc : ctr < 65536)
    (hpl : padBytes.length = v3Pad data.length) (hsz : data.length + v3Pad data.length + 32 < 65536) :
    ∃ p, encodeEncryptedRequest (some key) ctr data padBytes = .ok p ∧
      Spec.V3.decodeEncrypted key p = some ⟨6, ctr, data⟩ :=
  ⟨_, request_eq_spec key data padBytes ctr hsz,
    spec_decode_encode key data padBytes 6 ctr (by decide) hc (pad_eq _ ▸ hpl) (pad_eq _ ▸ hsz)⟩

/-- **C05 (←).** Every encrypted response the independent implementation produces — every payload
    length, hence every padding amount including 0, every key and counter — is decoded to exactly
    the payload sent. -/
theorem v3_decode_spec_response (key data padBytes : Bytes) (ctr : Nat)
    (hpl : padBytes.length = Spec.V3.padOf data.length)
    (hsz : data.length + Spec.V3.padOf data.length + 32 < 65536) :
    processPacket (some key) (Spec.V3.encodeEncrypted key 3 ctr data padBytes) = .ok data := by
  have hpad := padOf_lt data.length
  have hal := padOf_aligned data.length
  obtain ⟨hd, hm⟩ := padType _ 3 hpad (by decide)
  have hPl : (Spec.V3.be16 ctr ++ data ++ padBytes).length = 2 + data.length + Spec.V3.padOf data.length := by
    rw [List.length_append, List.length_append, hpl]; rfl
  unfold Spec.V3.encodeEncrypted
  rw [processPacket_layout key _ _ _ rfl (SHA256.sha256_length _) rfl rfl _ rfl hm, iv_eq, AES.cbcDecrypt_cbcEncrypt,
    if_pos ⟨by rw [AES.cbcEncrypt_length, hPl, hal], rfl⟩, hd, ← hpl, strip_plain _ _ _ rfl]

/-- history: with the old slice `payload[2:-pad]` a response with pad = 0 decoded to nothing -/
theorem pad0_history : ([1, 2, 3, 4] : Bytes).take 0 = [] := rfl

/-- **C05 (tag).** Any alteration confined to the 32-byte tag of an encrypted response is rejected
    with a protocol error. -/
theorem tag_alteration_rejected (key H CT T T' : Bytes) (hH : H.length = 6) (hT' : T'.length = 32)
    (h2 : H.take 2 = [0x83, 0x70]) (h4 : H[4]? = some 0x20) (b5 : UInt8) (h5 : H[5]? = some b5)
    (ht : b5.toNat % 16 = ptEncryptedResponse) (hal : CT.length % 16 = 0)
    (hauth : SHA256.sha256 (H ++ AES.cbcDecrypt key zeroIv CT) = T) (hne : T' ≠ T) :
    processPacket (some key) ((H ++ CT) ++ T') = .error .protocol := by
  rw [processPacket_layout key H CT T' hH hT' h2 h4 b5 h5 ht, if_neg fun hc => hne (hauth ▸ hc.2.symm)]

/-- **C05 (marker / magic).** Altering the start marker or the magic byte is rejected outright. -/
theorem marker_alteration_rejected (key : Option Bytes) (p : Bytes) (h : p.take 2 ≠ [0x83, 0x70]) :
    processPacket key p = .error .protocol := by
  unfold processPacket; rw [if_pos h]

theorem magic_alteration_rejected (key : Option Bytes) (p : Bytes) (b4 : UInt8) (h4 : p[4]? = some b4)
    (hne : b4 ≠ 0x20) : processPacket key p = .error .protocol := by
  unfold processPacket
  by_cases h : p.take 2 ≠ [0x83, 0x70]
  · rw [if_pos h]
  · rw [if_neg h, h4]; exact if_pos hne

/-- the named cryptographic event -/
def Sha256Collision (x y : Bytes) : Prop := x ≠ y ∧ SHA256.sha256 x = SHA256.sha256 y

/-- **C05 (reduction).** Altering the header (keeping it an encrypted response) and/or the
    ciphertext of an authentic encrypted response while keeping its tag can only be accepted if
    the original and the altered tagged texts are an explicit SHA-256 collision. -/
theorem alteration_collision (key H CT H' CT' T out : Bytes) (hH : H.length = 6) (hH' : H'.length = 6)
    (hT : T.length = 32) (h2 : H'.take 2 = [0x83, 0x70]) (h4 : H'[4]? = some 0x20) (b5 : UInt8)
    (h5 : H'[5]? = some b5) (ht : b5.toNat % 16 = ptEncryptedResponse) (hal : CT'.length % 16 = 0)
    (hauth : SHA256.sha256 (H ++ AES.cbcDecrypt key zeroIv CT) = T)
    (hne : H' ≠ H ∨ CT' ≠ CT)
    (hacc : processPacket (some key) ((H' ++ CT') ++ T) = .ok out) :
    Sha256Collision (H' ++ AES.cbcDecrypt key zeroIv CT') (H ++ AES.cbcDecrypt key zeroIv CT) := by
  rw [processPacket_layout key H' CT' T hH' hT h2 h4 b5 h5 ht] at hacc
  refine ⟨fun heq => ?_, (ok_of_ite hacc).1.2.trans hauth.symm⟩
  obtain ⟨hh, hc⟩ := List.append_inj heq (hH'.trans hH.symm)
  exact hne.elim (· hh) (· (AES.cbcDecrypt_injective key zeroIv hc))

/-! non-vacuity: a concrete response with pad 0 (payload of 14 bytes), evaluated through the theorem -/
example : processPacket (some (Py.zeros 32)) (Spec.V3.encodeEncrypted (Py.zeros 32) 3 7 (Py.zeros 14) []) =
    .ok (Py.zeros 14) := v3_decode_spec_response _ _ _ _ (by decide) (by decide)

/-! ### the same statements about the code as translated from the source text (tie by translation, §3.1b) -/

theorem encodeEncryptedRequestI_nat (key data padBytes : Bytes) (ctr : Nat) (hc : ctr < 65536)
    (hsz : data.length + v3Pad data.length + 32 < 65536) :
    encodeEncryptedRequestI (some key) (ctr : Int) data padBytes = encodeEncryptedRequest (some key) ctr data padBytes := by
  simp only [encodeEncryptedRequestI]
  rw [if_neg (by omega), if_neg (by omega), Int.toNat_natCast]

/-- **C05 (requests) about the translated `_encode_encrypted_request`.** -/
theorem v3_spec_decodes_request_code (key data padBytes : Bytes) (ctr : Nat) (hc : ctr < 65536)
    (hpl : padBytes.length = v3Pad data.length) (hsz : data.length + v3Pad data.length + 32 < 65536) :
    ∃ p, Generated.Codec.encodeEncryptedRequest (some key) (ctr : Int) data padBytes = .ok p ∧
      Spec.V3.decodeEncrypted key p = some ⟨6, ctr, data⟩ := by
  rw [CodecEq.encodeEncryptedRequest_eq, encodeEncryptedRequestI_nat key data padBytes ctr hc hsz]
  exact v3_spec_decodes_request key data padBytes ctr hc hpl hsz

/-- **C05 (responses) about the translated `_process_packet` / `_decode_encrypted_response`.** -/
theorem v3_decode_spec_response_code (key data padBytes : Bytes) (ctr : Nat)
    (hpl : padBytes.length = Spec.V3.padOf data.length)
    (hsz : data.length + Spec.V3.padOf data.length + 32 < 65536) :
    Generated.Codec.processPacket (some key) (Spec.V3.encodeEncrypted key 3 ctr data padBytes) = .ok data := by
  rw [CodecEq.processPacket_eq]; exact v3_decode_spec_response key data padBytes ctr hpl hsz

/-- every rejection theorem of this file transfers the same way -/
theorem marker_alteration_rejected_code (key : Option Bytes) (p : Bytes) (h : p.take 2 ≠ [0x83, 0x70]) :
    Generated.Codec.processPacket key p = .error .protocol := by
  rw [CodecEq.processPacket_eq]; exact marker_alteration_rejected key p h

end Msmart.Props.C05
