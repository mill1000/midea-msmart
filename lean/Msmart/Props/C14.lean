/-
  C14 — application containment: no response frame makes an operation raise; undecodable
  responses are skipped and the decodable ones of the same exchange are still applied.
  (About the tree repaired by the `fix:` commits e1e5d79 and 11f899b; before them `construct`
  returned `py "IndexError"` — see `constructInner_can_raise_indexError` — and `get_capabilities`
  could raise AttributeError.)
-/
import Msmart.Lemmas.CodecEqLan
import Msmart.Props.C12

namespace Msmart.Props.C14
open Msmart.Model Msmart.Lemmas

/-- **C14 (decoder).** For every byte string whatsoever, `Response.construct` returns a response
    or raises InvalidFrameException / InvalidResponseException — nothing else. -/
theorem construct_contained (f : Bytes) (e : Err) (h : construct f = .error e) :
    e = .invalidFrame ∨ e = .invalidResponse := by
  unfold construct at h
  split at h <;> cases h
  rename_i e' hc
  rcases constructInner_tri f e' hc with rfl | rfl | rfl <;> decide

/-- history: what the repair removed — the inner decoder does hit IndexError (empty frame) -/
theorem constructInner_can_raise_indexError : constructInner [] = .error indexError := rfl

/-- **C14 (exchange).** `_send_command_get_responses` never raises on any list of frames and
    returns exactly the decodable frames, decoded, in order. -/
theorem constructAll_decodable (fs : List Bytes) :
    constructAll fs = .ok (fs.filterMap (fun f => (construct f).toOption)) := by
  induction fs with
  | nil => rfl
  | cons f t ih =>
    unfold constructAll
    cases hc : construct f with
    | ok r => simp [ih, Except.toOption, hc, bind, Except.bind, pure, Except.pure]
    | error e =>
      rcases construct_contained f e hc with h | h <;> subst h <;>
        simp [ih, Except.toOption, hc]

/-! ### exchanges: once the command is encoded, `_send_command_get_responses` is a total function -/

/-- the frames of the next reply that decode, decoded -/
def nextResps (r : Run) : List Resp := (r.replies.headD []).filterMap fun f => (construct f).toOption

/-- what `_send_command_get_responses` leaves behind and returns once the command is encoded -/
def exchange (r : Run) (c : Cmd) : Run × List Resp :=
  ({ r with counter := (c.toBytes r.counter).2, replies := r.replies.drop 1, sent := r.sent ++ [c],
            dev := { r.dev with supported := !(nextResps r).isEmpty } }, nextResps r)

theorem sendGet_eq (r : Run) (c : Cmd) : sendGet r c = (c.toBytes r.counter).1.map fun _ => exchange r c := by
  unfold sendGet
  rw [constructAll_decodable]
  split <;> simp [*, Except.map, exchange, nextResps]

theorem sendGet_inv {r : Run} {c : Cmd} {out} (h : sendGet r c = .ok out) : out = exchange r c := by
  rw [sendGet_eq] at h
  cases hb : (c.toBytes r.counter).1 <;> rw [hb] at h <;> cases h
  rfl

/-- `exchange` along a list of commands: what `sendAll` returns when every command is encoded -/
def exchangeAll : Run → List Cmd → Run × List Resp
  | r, [] => (r, [])
  | r, c :: t => ((exchangeAll (exchange r c).1 t).1, (exchange r c).2 ++ (exchangeAll (exchange r c).1 t).2)

theorem sendAll_inv {cs : List Cmd} {r : Run} {out} (h : sendAll r cs = .ok out) : out = exchangeAll r cs := by
  induction cs generalizing r out with
  | nil => cases h; rfl
  | cons c t ih =>
    obtain ⟨o1, h1, h⟩ := bind_ok.mp h
    obtain rfl := sendGet_inv h1
    obtain ⟨o2, h2, h⟩ := bind_ok.mp h
    obtain rfl := ih h2
    cases h; rfl

/-- whether the exchange happens does not depend on the reply script -/
theorem sendGet_replies (r : Run) (c : Cmd) (reps : Replies) {out} (h : sendGet r c = .ok out) :
    sendGet { r with replies := reps } c = .ok (exchange { r with replies := reps } c) := by
  rw [sendGet_eq] at h ⊢
  cases hb : (c.toBytes r.counter).1 with
  | error e => rw [hb] at h; cases h
  | ok f => rfl

/-- on a script with more replies in front of the rest, the first exchange consumes its reply and leaves the others in
    front for the commands that follow -/
theorem sendAll_cons_script {r : Run} {c : Cmd} {fs : List Bytes} {out : Run × List Resp}
    (h : sendGet { r with replies := fs :: r.replies } c = .ok out) (script : Replies) (t : List Cmd) :
    sendAll { r with replies := fs :: script ++ r.replies } (c :: t) =
      (sendAll { out.1 with replies := script ++ out.1.replies } t).map fun o => (o.1, out.2 ++ o.2) := by
  rw [sendAll, sendGet_replies _ _ _ h]
  obtain rfl := sendGet_inv h
  rfl

/-- an error that comes from *encoding a command* (a user-set attribute that does not fit a byte,
    an unsupported property id, an oversized body) — never from a response -/
def EmitErr (e : Err) : Prop := ∃ (c : Cmd) (ctr : Nat), (c.toBytes ctr).1 = .error e

def OnlyEmit {α} (r : R α) : Prop := ∀ e, r = .error e → EmitErr e

theorem sendGet_onlyEmit (r : Run) (c : Cmd) : OnlyEmit (sendGet r c) := by
  rw [sendGet_eq]
  exact ErrIn.map _ fun e he => ⟨c, r.counter, he⟩

theorem sendAll_onlyEmit (cs : List Cmd) (r : Run) : OnlyEmit (sendAll r cs) := by
  induction cs generalizing r with
  | nil => exact ErrIn.ok
  | cons c t ih => exact ErrIn.bind (sendGet_onlyEmit r c) fun a => .bind (ih a.1) fun _ => .ok

theorem refresh_onlyEmit (r : Run) : OnlyEmit (refresh r) :=
  ErrIn.bind (sendAll_onlyEmit _ r) fun _ => .ok

theorem applyProperties_onlyEmit (r : Run) (ps : List (Nat × Nat)) : OnlyEmit (applyProperties r ps) :=
  ErrIn.bind (sendGet_onlyEmit _ _) fun _ => .ok

theorem apply_onlyEmit (r : Run) : OnlyEmit (apply r) :=
  ErrIn.bind (sendGet_onlyEmit _ _) fun _ => .ite .ok (.bind (applyProperties_onlyEmit _ _) fun _ => .ok)

theorem sendGetCaps_onlyEmit (r : Run) (c : Cmd) : OnlyEmit (sendGetCaps r c) :=
  ErrIn.bind (sendGet_onlyEmit _ _) fun _ => .ok

theorem getCapabilities_onlyEmit (r : Run) : OnlyEmit (getCapabilities r) := by
  refine ErrIn.bind (sendGetCaps_onlyEmit _ _) fun a => ?_
  dsimp only
  split
  · refine .ite (.bind (sendGetCaps_onlyEmit _ _) fun b => ?_) .ok
    split <;> exact .ok
  · exact .ok

theorem toggleDisplay_onlyEmit (r : Run) : OnlyEmit (toggleDisplay r) :=
  ErrIn.bind (sendGet_onlyEmit _ _) fun _ => refresh_onlyEmit _

theorem startSelfClean_onlyEmit (r : Run) : OnlyEmit (startSelfClean r) :=
  applyProperties_onlyEmit _ _

/-- **C14 (operations).** For every device state, every counter and *every* script of reply frame
    lists, refresh / apply / get_capabilities / toggle_display / start_self_clean either return
    normally or fail with an error produced by encoding one of their own commands; no reply frame
    can make them raise. -/
theorem operations_contained (r : Run) :
    OnlyEmit (refresh r) ∧ OnlyEmit (apply r) ∧ OnlyEmit (getCapabilities r) ∧
    OnlyEmit (toggleDisplay r) ∧ OnlyEmit (startSelfClean r) :=
  ⟨refresh_onlyEmit r, apply_onlyEmit r, getCapabilities_onlyEmit r, toggleDisplay_onlyEmit r,
   startSelfClean_onlyEmit r⟩

theorem sendGet_ok (r : Run) (c : Cmd) (b : Bytes) (hb : c.body = .ok b) (hl : b.length ≤ 243) :
    sendGet r c = .ok (exchange r c) := by
  obtain ⟨f, hf⟩ := C12.command_emitted c r.counter b hb hl
  rw [sendGet_eq, hf]; rfl

theorem sendAll_ok (cs : List Cmd) (hcs : ∀ c ∈ cs, ∃ b, c.body = .ok b ∧ b.length ≤ 243) (r : Run) :
    sendAll r cs = .ok (exchangeAll r cs) := by
  induction cs generalizing r with
  | nil => rfl
  | cons c t ih =>
    obtain ⟨b, hb, hl⟩ := hcs c List.mem_cons_self
    rw [sendAll, sendGet_ok r c b hb hl]
    simp only [bind, Except.bind]
    rw [ih fun c hc => hcs c (List.mem_cons_of_mem _ hc)]
    rfl

theorem mem_refreshCommands {d : Dev} {c : Cmd} (h : c ∈ refreshCommands d) :
    c = .getState ∨ c = .getEnergy ∨ c = .getHumidity ∨ c = .getProperties d.supportedProps := by
  simp only [refreshCommands, List.mem_append, List.mem_singleton, List.mem_ite_nil_right, List.mem_ite_nil_left] at h
  rcases h with ((h | h) | h) | h
  · exact .inl h
  · exact .inr (.inl h.2)
  · exact .inr (.inr (.inl h.2))
  · exact .inr (.inr (.inr h.2))

theorem length_flatten_le16 (ids : List Nat) : ((ids.map le16).flatten).length = 2 * ids.length := by
  induction ids with
  | nil => rfl
  | cons a t ih => rw [List.map_cons, List.flatten_cons, List.length_append, ih]; simp [le16]; omega

/-- **C14 (refresh is total).** Whatever the device replies — any frames, any number, in answer to
    any of the queries — `refresh()` returns normally, for every device object whose advertised
    property set has at most 120 ids (there are 12 property ids in all). -/
theorem refresh_total (r : Run) (hp : r.dev.supportedProps.length ≤ 120) :
    ∃ r', refresh r = .ok r' := by
  have hcs : ∀ c ∈ refreshCommands r.dev, ∃ b, c.body = .ok b ∧ b.length ≤ 243 := fun c hc => by
    rcases mem_refreshCommands hc with rfl | rfl | rfl | rfl
    · exact ⟨_, rfl, by decide⟩
    · exact ⟨_, rfl, by decide⟩
    · exact ⟨_, rfl, by decide⟩
    · refine ⟨_, if_neg (by omega), ?_⟩
      simp only [List.length_append, List.length_cons, List.length_nil, length_flatten_le16]
      omega
  exact ⟨_, by rw [refresh, sendAll_ok _ hcs]; rfl⟩

/-! non-vacuity -/
example : construct [] = .error .invalidResponse := rfl
example : (construct [0xaa,0x22,0xac,0,0,0,0,0,3,3,0xc0,1,0x45,0x66,0,0,0,0x30,0,0x10,4,0x5c,0xff,0x20,0x70,0,0,0,0,0,0,0,0x8b,0xed,0x19]).toOption.isSome = true := by decide +kernel

/-! ### histories: any number of operations in a row on the same object -/

/-- the public operations of the property, plus arbitrary changes of the local attributes between them
    (`tweak`: what setter calls do to the record) -/
inductive HOp where
  | refresh | apply | getCapabilities | toggleDisplay | startSelfClean
  | tweak (f : Dev → Dev)

def stepH (r : Run) : HOp → R Run
  | .refresh => refresh r
  | .apply => apply r
  | .getCapabilities => getCapabilities r
  | .toggleDisplay => toggleDisplay r
  | .startSelfClean => startSelfClean r
  | .tweak f => pure { r with dev := f r.dev }

def runH : Run → List HOp → R Run
  | r, [] => pure r
  | r, op :: t => stepH r op >>= fun r1 => runH r1 t

theorem stepH_onlyEmit (r : Run) (op : HOp) : OnlyEmit (stepH r op) := by
  cases op with
  | refresh => exact refresh_onlyEmit r
  | apply => exact apply_onlyEmit r
  | getCapabilities => exact getCapabilities_onlyEmit r
  | toggleDisplay => exact toggleDisplay_onlyEmit r
  | startSelfClean => exact startSelfClean_onlyEmit r
  | tweak f => exact ErrIn.ok

/-- **C14 (histories).** For EVERY sequence of operations on one device object - refresh, apply, capability query,
    display toggle, self-clean, with arbitrary local attribute changes in between - and EVERY reply script (whatever an
    earlier response left behind in the object), the sequence can only fail by failing to ENCODE one of its own commands;
    nothing a device sends makes a later operation raise. -/
theorem history_contained (ops : List HOp) (r : Run) : OnlyEmit (runH r ops) := by
  induction ops generalizing r with
  | nil => exact ErrIn.ok
  | cons op t ih => exact ErrIn.bind (stepH_onlyEmit r op) fun r1 => ih r1

example : ∃ r', runH { dev := {}, replies := [[], [[0xAA]], []], counter := 7, sent := [] } [.refresh, .tweak (fun d => { d with power := true }), .toggleDisplay] = .ok r' :=
  ⟨_, rfl⟩

/-! ### the dispatch of `Response.construct` as translated from the source text -/

/-- **C14 about the translated `Response.construct` / `_construct`** (everything up to the call of the response class): on ANY
    byte string it either selects a class and a payload or fails with InvalidFrameException / InvalidResponseException - the two
    exceptions the device layer catches - and with nothing else (IndexError is mapped by the translated `try … except`). -/
theorem construct_dispatch_contained_code (frame : Bytes) (e : Err)
    (h : Generated.Codec.constructOuter frame = .error e) : e = .invalidFrame ∨ e = .invalidResponse := by
  rw [CodecEq.constructOuter_eq] at h
  cases hd : constructDispatch frame with
  | ok r => rw [hd] at h; cases h
  | error e0 =>
    rw [hd] at h
    rcases CodecEq.constructDispatch_errs hd with rfl | rfl | rfl <;> cases h <;> decide

/-- **C14 about the translated `HumidityResponse._parse`**: on ANY payload it yields the reading (unknown for 0) or fails with
    the IndexError that `Response.construct` maps - nothing else. -/
theorem humidity_parse_contained_code (p : Bytes) (e : Err) (h : Generated.Codec.parseHumidity p = .error e) : e = indexError := by
  rw [CodecEq.parseHumidity_eq] at h
  exact ErrIn.map _ (parseHumidity_onlyIdx p) e h

end Msmart.Props.C14
