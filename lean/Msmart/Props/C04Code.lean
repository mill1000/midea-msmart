/-
  C04 about the TRANSLATED loop body of `_LanProtocolV3.data_received` (`Generated.Codec.reasmStep`, rewritten from the
  source text of /repo on every run): the `while` loop iterated over it computes the model's `parseLoop`, so the theorems
  of Props/C04Stream hold of it.  The loop skeleton itself (`self._buffer += data; while len(self._buffer) > 0: <body>`) is
  checked syntactically by the translator and written out here by hand.
-/
import Msmart.Props.C04Stream
import Msmart.Lemmas.CodecEqLan

namespace Msmart.Props.C04
open Msmart.Model Msmart.Generated

/-- `while len(self._buffer) > 0: <translated body>` — `fuel` bounds the number of iterations -/
def loopCode : Nat → Bytes → R (List Bytes × Bytes)
  | 0, b => .ok ([], b)
  | fuel + 1, b =>
    if b.length > 0 then
      match Codec.reasmStep b with
      | .error e => .error e
      | .ok none => .ok ([], b)
      | .ok (some (p, r)) =>
        match loopCode fuel r with
        | .ok (ps, r') => .ok (p :: ps, r')
        | .error e => .error e
    else .ok ([], b)

/-- `data_received(seg)`: `self._buffer += seg`, then the loop (it cannot run more often than the buffer has bytes) -/
def feedCode (buf seg : Bytes) : R (List Bytes × Bytes) := loopCode ((buf ++ seg).length + 1) (buf ++ seg)

/-- successive `data_received` calls -/
def feedAllCode : Bytes → List Bytes → R (List Bytes × Bytes)
  | buf, [] => .ok ([], buf)
  | buf, s :: t =>
    match feedCode buf s with
    | .error e => .error e
    | .ok (q, b') =>
      match feedAllCode b' t with
      | .ok (q', b'') => .ok (q ++ q', b'')
      | .error e => .error e

theorem loopCode_eq (fuel : Nat) (b : Bytes) (h : b.length < fuel) : loopCode fuel b = .ok (parseLoop b) := by
  induction fuel generalizing b with
  | zero => omega
  | succ n ih =>
    rw [loopCode, CodecEq.reasmStep_eq]
    split
    · cases hs : reasmStep b with
      | none => rw [parseLoop_none hs]
      | some pr =>
        have := reasmStep_shrinks hs
        simp only [ih pr.2 (by omega), parseLoop_some hs]
    · obtain rfl : b = [] := List.eq_nil_of_length_eq_zero (by omega)
      rw [parseLoop_none stable_nil]

theorem feedCode_eq (buf seg : Bytes) : feedCode buf seg = .ok (feed buf seg) := by
  unfold feedCode feed; exact loopCode_eq _ _ (by omega)

theorem feedAllCode_eq (buf : Bytes) (segs : List Bytes) : feedAllCode buf segs = .ok (feedAll buf segs) := by
  induction segs generalizing buf with
  | nil => rfl
  | cons s t ih =>
    unfold feedAllCode
    rw [feedCode_eq]
    simp only [ih, feedAll]

/-- **C04 about the translated code (segmentation independence).** However the stream is cut into segments, the
    successive `data_received` calls — the translated loop body, iterated — never raise, queue the packets and leave the
    buffer of one call with the whole stream. -/
theorem segmentation_independent_code (segs : List Bytes) :
    feedAllCode [] segs = .ok (parseLoop segs.flatten) := by
  rw [feedAllCode_eq, segmentation_independent _ _ stable_nil]; rfl

/-- **C04 about the translated code (exactly once, complete, in order; garbage skipped).** -/
theorem parse_stream_code (segs ps : List Bytes) (hps : ∀ p ∈ ps, WfPacket p) (g q : Bytes) (hg : MarkerFree g)
    (hq : WfPacket q) (j : Nat) (hj : j < q.length) (hs : segs.flatten = g ++ ps.flatten ++ q.take j) :
    feedAllCode [] segs = .ok (ps, (if ps = [] then g else []) ++ q.take j) := by
  rw [segmentation_independent_code, hs, parse_stream ps hps g q hg hq j hj]

/-! non-vacuity: a packet cut in the middle of its header, garbage in front, 83 70 inside the body -/
example : feedAllCode [] [[0x12, 0x83, 0x70, 0x00], [0x02, 0x20, 0x00, 0x83, 0x70, 0xAA], [0xBB, 0x83]]
    = .ok ([[0x83, 0x70, 0x00, 0x02, 0x20, 0x00, 0x83, 0x70, 0xAA, 0xBB]], [0x83]) := by decide +kernel

end Msmart.Props.C04
