/-
  C18 — discovery: one device per host; bad responders cannot spoil the rest.
  (About the tree repaired by `fix:` f6d4c4f: before it a parse exception in one host's task
  propagated through asyncio.gather and aborted the whole run.)
-/
import Msmart.Lemmas.CodecEqLan

namespace Msmart.Props.C18
open Msmart.Model

/-- the first datagram a host sent, if any -/
def firstOf (ds : List Dgram) (h : Nat) : Option Dgram := ds.find? (fun d => d.host = h)

/-- what a host contributes: the parse of its first datagram -/
def contribution (d : Dgram) : Option DevInfo :=
  match getDeviceVersion d.isXml d.data with
  | .ok v => getDevice v d.data
  | .error _ => none

theorem firstOf_cons (d : Dgram) (t : List Dgram) (h : Nat) :
    firstOf (d :: t) h = if d.host = h then some d else firstOf t h := by
  rw [firstOf, List.find?_cons]; split <;> simp_all [firstOf]

/-- the task list, characterised: a host has a task iff its FIRST datagram (among hosts not yet
    seen) has a recognisable version, and the task carries exactly that datagram -/
theorem task_iff_first (seen : List Nat) (ds : List Dgram) (h v : Nat) (data : Bytes) :
    (h, v, data) ∈ handleDatagrams seen ds ↔
      h ∉ seen ∧ ∃ d, firstOf ds h = some d ∧ getDeviceVersion d.isXml d.data = .ok v ∧ d.data = data := by
  fun_induction handleDatagrams seen ds with
  | case1 => simp [firstOf]
  | case2 seen d t hs ih =>
    -- a host already seen is not `h`
    have hm : d.host ∈ seen := by simpa using hs
    rw [ih, firstOf_cons]
    exact and_congr_right fun hn => by rw [if_neg fun e : d.host = h => hn (e ▸ hm)]
  | case3 seen d t hs v' hv ih =>
    have hm : d.host ∉ seen := by simpa using hs
    rw [List.mem_cons, ih, firstOf_cons]
    by_cases hh : d.host = h
    · subst hh; simp [hv, hm, eq_comm]
    · simp [hh, Ne.symm hh]
  | case4 seen d t hs e hv ih =>
    rw [ih, firstOf_cons]
    by_cases hh : d.host = h
    · subst hh; simp [hv]
    · simp [hh, Ne.symm hh]

/-- **C18 (one per host).** Whatever datagrams arrive — any multiset, any order, any source ports,
    any number of duplicates — at most one task, hence at most one device, per source address. -/
theorem one_task_per_host (seen : List Nat) (ds : List Dgram) :
    ((handleDatagrams seen ds).map (·.1)).Nodup := by
  fun_induction handleDatagrams seen ds with
  | case1 => exact .nil
  | case2 _ _ _ _ ih | case4 _ _ _ _ _ _ ih => exact ih
  | case3 seen d t _ v _ ih =>
    refine List.nodup_cons.mpr ⟨fun hm => ?_, ih⟩
    obtain ⟨x, hx, hx1⟩ := List.mem_map.mp hm
    exact ((task_iff_first _ t x.1 x.2.1 x.2.2).mp hx).1 (hx1 ▸ List.mem_cons_self)

theorem one_device_per_host (ds : List Dgram) : ((discoverRun ds).map (·.1)).Nodup := by
  -- the devices are what is left of the tasks, host by host
  refine List.Nodup.sublist ?_ (one_task_per_host [] ds)
  unfold discoverRun
  generalize handleDatagrams [] ds = l
  induction l with
  | nil => exact .slnil
  | cons x t ih =>
    obtain ⟨h, v, data⟩ := x
    simp only [List.filterMap_cons, List.map_cons]
    cases getDevice v data with
    | none => exact ih.cons _
    | some i => exact ih.cons_cons _

/-- **C18 (result).** A device is reported for a host exactly when the host's FIRST datagram is a
    well-formed V2/V3 reply, and it is the parse of that datagram: later datagrams of the host,
    datagrams of other hosts and their order are irrelevant; a host whose first datagram is bad
    contributes nothing and changes nothing else. -/
theorem result_iff_first (ds : List Dgram) (h : Nat) (i : DevInfo) :
    (h, i) ∈ discoverRun ds ↔ ∃ d, firstOf ds h = some d ∧ contribution d = some i := by
  simp only [discoverRun, List.mem_filterMap, Prod.exists, Option.map_eq_some_iff, Prod.mk.injEq, task_iff_first,
    List.not_mem_nil, not_false_eq_true, true_and]
  constructor
  · rintro ⟨_, v, _, ⟨d, hf, hv, rfl⟩, _, hg, rfl, rfl⟩
    exact ⟨d, hf, by rw [contribution, hv]; exact hg⟩
  · rintro ⟨d, hf, hc⟩
    unfold contribution at hc
    split at hc
    · exact ⟨_, _, _, ⟨d, hf, ‹_›, rfl⟩, _, hc, rfl, rfl⟩
    · cases hc

/-- **C18 (isolation).** Two arrival sequences in which every host has the same first datagram
    report the same set of devices — so interleaving, duplicates, source ports and anything a bad
    host sends after (or other hosts send around) its first datagram make no difference. -/
theorem depends_only_on_first (ds₁ ds₂ : List Dgram) (hf : ∀ h, firstOf ds₁ h = firstOf ds₂ h) (h : Nat)
    (i : DevInfo) : (h, i) ∈ discoverRun ds₁ ↔ (h, i) ∈ discoverRun ds₂ := by
  rw [result_iff_first, result_iff_first, hf h]

/-- `discoverRun` is a total function: no reply whatsoever makes the run fail (after the repair) -/
theorem discover_total (ds : List Dgram) : ∃ r, discoverRun ds = r := ⟨_, rfl⟩

/-! non-vacuity -/
example : discoverRun [⟨1, false, [1, 2, 3]⟩, ⟨1, false, [0x5A, 0x5A]⟩] = [] := by decide

/-! ### the version test as translated from the source text -/

/-- **C18 about the translated `Discover._get_device_version`** (the XML parser's verdict is an input bit): a datagram that is
    not XML is classified by its first two bytes, and one that starts with neither marker raises `DiscoverError` - the error
    the handler isolates - and nothing else. -/
theorem version_classification_code (data : Bytes) :
    Generated.Codec.getDeviceVersion false data =
      (if data.take 2 = [0x5A, 0x5A] then .ok 2 else if data.take 2 = [0x83, 0x70] then .ok 3 else .error .discover) := by
  rw [CodecEq.getDeviceVersion_eq]
  unfold getDeviceVersion
  simp only [Bool.false_eq_true, if_false]
  split
  · rfl
  · split <;> rfl

/-- … and XML (a V1 unit) is version 1 whatever the bytes are -/
theorem version_xml_code (data : Bytes) : Generated.Codec.getDeviceVersion true data = .ok 1 := by
  rw [CodecEq.getDeviceVersion_eq]; rfl

end Msmart.Props.C18
