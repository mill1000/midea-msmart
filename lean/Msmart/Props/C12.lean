/-
  C12 — every emitted command is a well-formed, device-acceptable frame; message ids advance by
  one modulo 256 indefinitely.
-/
import Msmart.Lemmas.CodecEq

namespace Msmart.Props.C12
open Msmart.Model Msmart.Lemmas

/-- documented frame type per command kind (Spec side): writes are CONTROL, everything else QUERY -/
def documentedType : Cmd → UInt8
  | .setState _ => Spec.ftControl
  | .setProperties _ => Spec.ftControl
  | _ => Spec.ftQuery

/-- The generated CRC table (from /repo/msmart/crc8.py) is the CRC-8/MAXIM table. -/
theorem crc_table_is_maxim (b : UInt8) : crcT b = Spec.crcByte b := table_is_maxim b

/-- what the device-side parser makes of ten header bytes, a body, a message id, its CRC and a check byte -/
theorem parseFrame_build {f hdr pl : Bytes} {x cs : UInt8} (hf : f = hdr ++ (pl ++ [x] ++ [Spec.crc8 (pl ++ [x])] ++ [cs]))
    (h10 : hdr.length = 10) (h0 : hdr[0]? = some 0xAA) (h1 : hdr[1]?.map UInt8.toNat = some (pl.length + 12))
    (hs : Spec.byteSum (f.drop 1) % 256 = 0) :
    Spec.parseFrame f = some ⟨hdr.getD 2 0, hdr.getD 9 0, pl, x⟩ := by
  have hg : ∀ i, i < 10 → f[i]? = hdr[i]? := fun i hi => by rw [hf, List.getElem?_append_left (by omega)]
  rw [Spec.parseFrame, if_neg (by simp [hf, h10]; omega), hg 0 (by omega), if_neg (fun h => h h0), hg 1 (by omega), h1,
    if_neg (by simp [hf, h10]; omega), if_neg (fun h => h hs)]
  simp only [List.getD_eq_getElem?_getD, hg 2 (by omega), hg 9 (by omega)]
  rw [hf, ← h10, List.drop_left]
  simp only [List.dropLast_concat, List.getLastD_concat]
  exact if_neg (fun h => h rfl)

/-- `Command.tobytes(data)` for any body of at most 243 bytes yields a frame the device-side
    parser accepts, carrying exactly that body, message id and frame type. -/
theorem frame_wellformed (ft msgId : UInt8) (data : Bytes) (hlen : data.length ≤ 243) :
    ∃ f, commandToBytes ft msgId data = .ok f ∧
      Spec.parseFrame f = some ⟨0xAC, ft, data, msgId⟩ := by
  refine ⟨_, if_neg (by simp [Generated.frameHeaderLength]; omega),
    parseFrame_build (hdr := [0xAA, _, devTypeAC, 0, 0, 0, 0, 0, 0, ft]) (by rw [crc8_eq_spec, List.append_assoc]) rfl rfl ?_ ?_⟩
  · rw [List.getElem?_cons_succ, List.getElem?_cons_zero, Option.map_some, Lemmas.u8nat] <;>
      simp [Generated.frameHeaderLength] <;> omega
  · rw [List.cons_append, List.cons_append, List.drop_succ_cons, List.drop_zero, show Spec.byteSum = sumB from rfl,
      sumB_append, sumB_cons, sumB_nil, Nat.add_zero]
    exact sum_with_checksum _

theorem documentedType_eq (c : Cmd) : c.frameType = documentedType c := by
  cases c <;> rfl

theorem toBytes_of_body {c : Cmd} {body : Bytes} (hb : c.body = .ok body) (counter : Nat) :
    c.toBytes counter = (commandToBytes c.frameType ((counter + 1) % 256).toUInt8 body, counter + 1) := by
  rw [Cmd.toBytes, hb]; rfl

theorem command_oversize (c : Cmd) (counter : Nat) (body : Bytes)
    (hb : c.body = .ok body) (hlen : 243 < body.length) :
    (c.toBytes counter).1 = .error (.py "ValueError") := by
  rw [toBytes_of_body hb]
  exact if_pos (by simp [Generated.frameHeaderLength]; omega)

/-- **C12 (well-formedness).** Whatever command object and whatever value the process-wide counter
    has, if `tobytes()` returns a frame then the device-side parser accepts it as an 0xAC frame
    of the documented type carrying exactly the command's body and the next message id. -/
theorem command_wellformed (c : Cmd) (counter : Nat) (f : Bytes)
    (h : (c.toBytes counter).1 = .ok f) :
    ∃ body, c.body = .ok body ∧ body.length ≤ 243 ∧
      Spec.parseFrame f = some ⟨0xAC, documentedType c, body, ((counter + 1) % 256).toUInt8⟩ := by
  cases hb : c.body with
  | error e => simp [Cmd.toBytes, hb] at h
  | ok body =>
    have hlen : body.length ≤ 243 := Nat.le_of_not_lt fun hl => by
      rw [command_oversize c counter body hb hl] at h; cases h
    obtain ⟨f', hf', hp⟩ := frame_wellformed c.frameType ((counter + 1) % 256).toUInt8 body hlen
    rw [toBytes_of_body hb, hf'] at h
    cases h
    exact ⟨body, rfl, hlen, by rw [hp, documentedType_eq]⟩

/-- and conversely every command whose body fits is emitted (the only failures are the explicit
    Python error branches: ValueError for an oversized body or an out-of-range byte,
    NotImplementedError for a property id whose encoding is not implemented) -/
theorem command_emitted (c : Cmd) (counter : Nat) (body : Bytes)
    (hb : c.body = .ok body) (hlen : body.length ≤ 243) :
    ∃ f, (c.toBytes counter).1 = .ok f := by
  obtain ⟨f, hf, _⟩ := frame_wellformed c.frameType ((counter + 1) % 256).toUInt8 body hlen
  exact ⟨f, by rw [toBytes_of_body hb]; exact hf⟩

/-- counter after emitting a list of commands (a command whose body raises does not advance it) -/
def runCounter (counter : Nat) : List Cmd → Nat
  | [] => counter
  | c :: t => runCounter (c.toBytes counter).2 t

theorem counter_step (c : Cmd) (counter : Nat) :
    (c.toBytes counter).2 = counter + 1 ∨ (c.toBytes counter).2 = counter := by
  unfold Cmd.toBytes
  cases c.body <;> simp [nextMessageId]

theorem runCounter_eq (cs : List Cmd) (k : Nat) (hall : ∀ c ∈ cs, ∃ b, c.body = .ok b) :
    runCounter k cs = k + cs.length := by
  induction cs generalizing k with
  | nil => rfl
  | cons c t ih =>
    obtain ⟨b, hb⟩ := hall c List.mem_cons_self
    rw [runCounter, toBytes_of_body hb, ih _ fun c hc => hall c (List.mem_cons_of_mem _ hc), List.length_cons]
    omega

/-- **C12 (message ids).** In any sequence of successfully emitted commands, of any length, the
    n-th command after a counter value `k` carries message id `(k + n) mod 256`: consecutive ids
    advance by one modulo 256 indefinitely. -/
theorem message_id_step (cs : List Cmd) (counter : Nat)
    (hall : ∀ c ∈ cs, ∃ b, c.body = .ok b) (c : Cmd) (f : Bytes)
    (h : (c.toBytes (runCounter counter cs)).1 = .ok f) :
    ∃ body, Spec.parseFrame f =
      some ⟨0xAC, documentedType c, body, ((counter + cs.length + 1) % 256).toUInt8⟩ := by
  rw [runCounter_eq cs counter hall] at h
  obtain ⟨body, _, _, hp⟩ := command_wellformed c _ f h
  exact ⟨body, hp⟩

/-! ### the command bodies as translated from the source text (tie by translation, `Generated/Codec.lean`) -/

/-- **C12 about the translated `Command.tobytes` + `Frame.tobytes` + `crc8.calculate` + `Frame.checksum`**: for every frame
    type, message id and payload the bytes they produce are the model's `commandToBytes` (for which `frame_wellformed` /
    `command_wellformed` are proved), including the ValueError for an oversized payload. -/
theorem command_frame_code (ft id : UInt8) (data : Bytes) :
    (Generated.Codec.commandPayload data (id.toNat : Int) >>= fun p =>
        Generated.Codec.frameTobytes ((devTypeAC).toNat : Int) 0 (ft.toNat : Int) p) = commandToBytes ft id data :=
  CodecEq.commandToBytes_eq ft id data

/-- **C12 about the translated code.** The bodies the translated `tobytes` methods hand to `Command.tobytes` are the
    bodies of the model's commands (for which `command_wellformed` is proved) - for every parameter value. -/
theorem command_bodies_code :
    Generated.Codec.getStateBody (((Generated.temperatureType.lookup "INDOOR").getD 0 : Nat) : Int) = Cmd.body .getState ∧
    Generated.Codec.getEnergyBody = Cmd.body .getEnergy ∧
    Generated.Codec.getHumidityBody = Cmd.body .getHumidity ∧
    (∀ a, Generated.Codec.getCapabilitiesBody a = Cmd.body (.getCapabilities a)) ∧
    (∀ b, Generated.Codec.toggleDisplayBody b = Cmd.body (.toggleDisplay b)) ∧
    (∀ s, CodecEq.setStateCode s = Cmd.body (.setState s)) :=
  ⟨CodecEq.getState_eq, CodecEq.getEnergy_eq, CodecEq.getHumidity_eq, CodecEq.getCapabilities_eq,
   CodecEq.toggleDisplay_eq, CodecEq.setStateBody_eq⟩

/-! non-vacuity: concrete commands meet the hypotheses -/
example : ∃ f, ((Cmd.getState).toBytes 0).1 = .ok f := ⟨_, rfl⟩
example : ((Cmd.setState {}).toBytes 255).2 = 256 := rfl
example : ∃ b, (Cmd.setProperties [(pidIeco, 1), (pidBuzzer, 0)]).body = .ok b := ⟨_, rfl⟩
example : (Cmd.setProperties [(pidAnion, 1)]).body = .error (.py "NotImplementedError") := rfl

/-! ### the message-id counter as translated -/

/-- the ids returned by `n` successive calls of the translated `_next_message_id`, the class counter being `c` before -/
def idsCode : Int → Nat → List Int
  | _, 0 => []
  | c, n + 1 => (Generated.Codec.nextMessageId c).1 :: idsCode (Generated.Codec.nextMessageId c).2 n

/-- **C12 (message ids) about the translated code.** From ANY counter value, for ANY number of calls: the i-th id handed out
    is `(c + i + 1) mod 256` - consecutive ids advance by one modulo 256 indefinitely (the Python int never wraps). -/
theorem message_ids_advance_code (c n i : Nat) (h : i < n) :
    (idsCode (c : Int) n)[i]? = some (((c + i + 1) % 256 : Nat) : Int) := by
  induction n generalizing c i with
  | zero => omega
  | succ m ih =>
    unfold idsCode
    rw [CodecEq.nextMessageId_eq]
    simp only [Model.nextMessageId, CodecEq.u8_mod]
    cases i with
    | zero => simp
    | succ j =>
      rw [List.getElem?_cons_succ, ih (c + 1) j (by omega), Nat.add_assoc c 1 j, Nat.add_comm 1 j]

example : idsCode 253 4 = [254, 255, 0, 1] := by decide +kernel

end Msmart.Props.C12
