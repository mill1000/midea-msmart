/-
  C09 — transport containment: whatever the peer sends, an exchange or an authentication ends in
  decoded frames, a protocol / authentication error or a timeout.

  Proved over the Session model for EVERY reaction function of the peer (every byte sequence, at
  every time, on every connection, including closes), every outcome of every connection attempt and
  every history of operations.  The decoders involved are the very models whose byte-level behaviour
  C02–C06 tie to the code (`processPacket`, `packetDecode`, `getLocalKey`, the reassembly loop); their
  error alphabets are in `Lemmas/PacketErr.lean`.  The invariant that makes `packet[4]`, `packet[5]`
  safe — a V3 receive queue only holds what the reassembly cut (at least 8 bytes, of which the
  invariant keeps 6) — is `QOk`.
-/
import Msmart.Lemmas.SessionContain

namespace Msmart.Props.C09
open Msmart.Model Msmart.Model.Session Msmart.Lemmas.Sess

/-- the allowed ways for a transport-level call to end -/
def Contained {α} (r : R α) : Prop := ∀ e, r = .error e → e = .protocol ∨ e = .auth ∨ e = .timeout

/-- what is assumed of the CALLER (not of the peer): the queue invariant of a reachable state,
    well-formed stored credentials, and no cancellation armed -/
def Good (s : S) : Prop := QOk s ∧ CredOk s ∧ s.w.cancelAt = none

theorem good_fresh (s : S) (h1 : s.l.conn = none) (h2 : s.l.token = none) (h3 : s.l.key = none)
    (h4 : s.w.cancelAt = none) : Good s :=
  ⟨qok_none h1, by unfold CredOk; rw [h2, h3]; simp, h4⟩

/-- **C09 (exchange).** For every peer behaviour: `LAN.send` ends in frames or in a protocol /
    authentication / timeout error, and leaves a state from which the same holds again. -/
theorem send_contained (p : Params) (rx : Reactions) (s s' : S) (frame : Bytes) (n : Nat) (r : R (List Bytes))
    (hg : Good s) (h : lanSend p rx s frame n = (r, s')) : Contained r ∧ Good s' := by
  obtain ⟨_, _, _, i, _⟩ := lanSend_tr h
  exact ⟨fun e he => lanSend_contain hg.1 hg.2.1 hg.2.2 (he ▸ h), i.path.qok hg.1,
    credOk_of_creds hg.2.1 i.path.creds, i.path.unarmed hg.2.2⟩

/-- **C09 (authentication).** For every peer behaviour: `LAN.authenticate(token, key)` with a token that
    fits the packet's size field and a 32-byte key ends normally or in a protocol / authentication /
    timeout error. -/
theorem authenticate_contained (p : Params) (rx : Reactions) (s s' : S) (t k : Bytes) (r : R Unit)
    (hg : Good s) (ht : t.length < 65536) (hk : k.length = 32)
    (h : lanAuthenticate p rx s (some t) (some k) Generated.lanRetries = (r, s')) : Contained r ∧ Good s' := by
  -- both credentials are given, so `pickCred` returns them and not the stored ones
  have hpt : ∀ x, pickCred (some t) (some k) s.l.token = some x → x.length < 65536 := by rintro _ ⟨⟩; exact ht
  have hpk : ∀ x, pickCred (some k) (some t) s.l.key = some x → x.length = 32 := by rintro _ ⟨⟩; exact hk
  refine ⟨(lanAuthenticate_contain hg.1 lanRetries_pos hg.2.2 hpt hpk h).1, lanAuthenticate_qok hg.1 h, ?_,
    lanAuthenticate_inv (P := fun s => s.w.cancelAt = none) id Tr.unarmed
      (fun _ _ _ h => (pump_ticks ..).frame.2.2 h) h hg.2.2⟩
  rcases creds_lanAuthenticate h with ⟨_, hc⟩ | ⟨_, hc⟩
  · simp only [creds, Prod.mk.injEq] at hc
    unfold CredOk; rw [hc.1, hc.2]; exact ⟨hpt, hpk⟩
  · exact credOk_of_creds hg.2.1 hc

/-- operations whose caller-supplied arguments are well formed -/
def WfOp : Op → Prop
  | .authenticate t k => t.length < 65536 ∧ k.length = 32
  | .sendCancelled .. => False          -- the caller's cancellation is no peer behaviour (`C08.cancelled_read_drops_connection`)
  | .authCancelled .. => False
  | _ => True

def OutcomeOk : Outcome → Prop
  | .failed e => e = .protocol ∨ e = .auth ∨ e = .timeout
  | _ => True

theorem outcomeOk_send {x : R (List Bytes) × S} (hc : Contained x.1) : OutcomeOk (outcomeOfSend x).1 := by
  obtain ⟨r, s⟩ := x
  cases r with
  | ok => trivial
  | error e => exact hc e rfl

theorem outcomeOk_auth {x : R Unit × S} (hc : Contained x.1) : OutcomeOk (outcomeOfAuth x).1 := by
  obtain ⟨r, s⟩ := x
  cases r with
  | ok => trivial
  | error e => exact hc e rfl

theorem step_contained (p : Params) (rx : Reactions) (s : S) (op : Op) (hg : Good s) (hw : WfOp op) :
    OutcomeOk (step p rx s op).1 ∧ Good (step p rx s op).2 := by
  have send : ∀ f n, OutcomeOk (outcomeOfSend (lanSend p rx s f n)).1 ∧ Good (outcomeOfSend (lanSend p rx s f n)).2 :=
    fun f n =>
      have ⟨c, g⟩ := send_contained p rx s _ f n _ hg rfl
      ⟨outcomeOk_send c, by rw [outcomeOfSend_snd]; exact g⟩
  cases op with
  | send f => exact send f _
  | sendN f n => exact send f n
  | authenticate t k =>
    have ⟨c, g⟩ := authenticate_contained p rx s _ t k _ hg hw.1 hw.2 rfl
    exact ⟨outcomeOk_auth c, by rw [step, outcomeOfAuth_snd]; exact g⟩
  | advance ms =>
    exact ⟨trivial, (pump_ticks ..).qok hg.1, credOk_of_creds hg.2.1 (creds_pump _ _), (pump_ticks ..).frame.2.2 hg.2.2⟩
  | setMaxLifetime m =>
    exact ⟨trivial, qok_of_abs_conn hg.1 rfl, credOk_of_creds hg.2.1 rfl, hg.2.2⟩
  | sendCancelled f ms => exact hw.elim
  | authCancelled t k ms => exact hw.elim

/-- **C09 (histories).** In every history of sends, authentications, clock jumps and lifetime changes,
    against every peer: every operation ends in frames / normally / in a protocol, authentication or
    timeout error — no other exception class is ever an outcome. -/
theorem transport_contained (p : Params) (rx : Reactions) (ops : List Op) (s : S) (hg : Good s)
    (hw : ∀ op ∈ ops, WfOp op) :
    (∀ o ∈ (run p rx s ops).1, OutcomeOk o) ∧ Good (run p rx s ops).2 :=
  run_inv p rx ops (fun s op ho hg => step_contained p rx s op hg (hw op ho)) s hg

theorem deviceSend_good {p : Params} {rx : Reactions} {s s1 : S} {frame : Bytes} {res : R (List Bytes)} (hg : Good s)
    (h : deviceSend p rx s frame = (res, s1)) : (∃ fs, res = .ok fs) ∧ Good s1 := by
  unfold deviceSend at h
  cases hl : lanSend p rx s frame Generated.lanRetries with
  | mk r s2 =>
    obtain ⟨c, g⟩ := send_contained p rx s s2 frame _ r hg hl
    rw [hl] at h
    cases r with
    | ok fs => cases h; exact ⟨⟨fs, rfl⟩, g⟩
    | error e => rcases c e rfl with rfl | rfl | rfl <;> cases h <;> exact ⟨⟨[], rfl⟩, g⟩

/-- **C09 (device level).** `Device._send_command` never raises: whatever the peer does it returns a
    (possibly empty) list of frames — so `refresh()` and friends report an unresponsive device. -/
theorem device_send_never_raises (p : Params) (rx : Reactions) (s : S) (frame : Bytes) (hg : Good s) :
    ∃ fs, (deviceSend p rx s frame).1 = .ok fs :=
  (deviceSend_good hg rfl).1

/-- `Device.authenticate` ends normally or with an AuthenticationError -/
theorem device_authenticate_contained (p : Params) (rx : Reactions) (s : S) (t k : Bytes) (hg : Good s)
    (ht : t.length < 65536) (hk : k.length = 32) :
    (deviceAuthenticate p rx s t k).1 = .ok () ∨ (deviceAuthenticate p rx s t k).1 = .error .auth := by
  unfold deviceAuthenticate
  cases hl : lanAuthenticate p rx s (some t) (some k) Generated.lanRetries with
  | mk r s1 =>
    obtain ⟨c, _⟩ := authenticate_contained p rx s s1 t k r hg ht hk hl
    cases r with
    | ok u => exact .inl rfl
    | error e => rcases c e rfl with rfl | rfl | rfl <;> exact .inr rfl

/-! non-vacuity: a fresh object is `Good`; and the error alphabet is really inhabited — an error
    packet from the peer is a protocol error for the decoder the model runs -/
example : Good { w := { connects := [.ok] }, l := {} } := good_fresh _ rfl rfl rfl rfl
example : processPacket none [0x83, 0x70, 0, 0x20, 0x20, 0x0f, 0, 0] = .error .protocol := by rfl

end Msmart.Props.C09
