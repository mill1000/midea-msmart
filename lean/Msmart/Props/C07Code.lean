/-
  C07 about the TRANSLATED `_LanProtocolV3.write` (`Generated.Codec.writeV3`, rewritten from the source text of /repo on
  every run): successive writes on one connection carry consecutive counters modulo 4096, each decodable by the
  independent implementation under the session key; an unknown packet type writes nothing.
-/
import Msmart.Props.C05
import Msmart.Lemmas.CodecEqLan

namespace Msmart.Props.C07
open Msmart.Model Msmart.Generated

/-- one `write(data)` (encrypted request) with counter `c < 4096`: the packet decodes, at the independent implementation,
    to exactly this counter and payload, and the counter afterwards is `c + 1` wrapped to 12 bits -/
theorem write_data_code (k data pad : Bytes) (c : Nat) (hc : c < 4096)
    (hpl : pad.length = v3Pad data.length) (hsz : data.length + v3Pad data.length + 32 < 65536) :
    ∃ p, Codec.writeV3 (some k) (c : Int) data 6 pad = .ok (p, (((c + 1) % 4096 : Nat) : Int)) ∧
      Spec.V3.decodeEncrypted k p = some ⟨6, c, data⟩ := by
  obtain ⟨p, hp, hd⟩ := C05.v3_spec_decodes_request_code k data pad c (by omega) hpl hsz
  refine ⟨p, ?_, hd⟩
  rw [CodecEq.writeV3_eq]
  unfold writeV3I
  rw [if_pos rfl, ← CodecEq.encodeEncryptedRequest_eq, hp]
  rw [show ((c : Int) + 1) % 4096 = (((c + 1) % 4096 : Nat) : Int) by omega]

/-- a packet type other than ENCRYPTED_REQUEST / HANDSHAKE_REQUEST: TypeError, nothing handed to the transport -/
theorem write_bad_type_code (key : Option Bytes) (c : Int) (data pad : Bytes) (t : Int) (h6 : t ≠ 6) (h0 : t ≠ 0) :
    Codec.writeV3 key c data t pad = .error (.py "TypeError") := by
  rw [CodecEq.writeV3_eq]; unfold writeV3I; rw [if_neg h6, if_neg h0]

/-- successive `write(dataᵢ)` calls on one protocol object, starting at counter `c` -/
def writesCode (key : Option Bytes) : Int → List (Bytes × Bytes) → R (List Bytes × Int)
  | c, [] => .ok ([], c)
  | c, (d, r) :: t =>
    match Codec.writeV3 key c d 6 r with
    | .error e => .error e
    | .ok (p, c') =>
      match writesCode key c' t with
      | .ok (ps, c'') => .ok (p :: ps, c'')
      | .error e => .error e

/-- what an encrypted request needs to be encodable: pad bytes of the right length, size field fits -/
def WfReq (d : Bytes × Bytes) : Prop := d.2.length = v3Pad d.1.length ∧ d.1.length + v3Pad d.1.length + 32 < 65536

/-- **C07 (counters) about the translated code.** ANY number of successive writes from ANY 12-bit counter: the i-th packet
    decodes at the independent implementation to counter `(c + i) mod 4096` and the i-th payload — consecutive counters,
    wrapping from 4095 to 0, none skipped or repeated — and the counter afterwards is `(c + n) mod 4096`. -/
theorem counters_consecutive_code (k : Bytes) (ds : List (Bytes × Bytes)) (hds : ∀ d ∈ ds, WfReq d) (c : Nat) (hc : c < 4096) :
    ∃ ps, writesCode (some k) (c : Int) ds = .ok (ps, (((c + ds.length) % 4096 : Nat) : Int)) ∧ ps.length = ds.length ∧
      ∀ i (h : i < ds.length), ∃ p, ps[i]? = some p ∧
        Spec.V3.decodeEncrypted k p = some ⟨6, (c + i) % 4096, (ds[i]'h).1⟩ := by
  induction ds generalizing c with
  | nil => exact ⟨[], by rw [writesCode, List.length_nil, Nat.add_zero, Nat.mod_eq_of_lt hc], rfl, nofun⟩
  | cons d t ih =>
    obtain ⟨hd, ht⟩ := List.forall_mem_cons.1 hds
    obtain ⟨p, hp, hdec⟩ := write_data_code k d.1 d.2 c hc hd.1 hd.2
    obtain ⟨ps, hps, hlen, hall⟩ := ih ht ((c + 1) % 4096) (Nat.mod_lt _ (by decide))
    have e : ∀ j, ((c + 1) % 4096 + j) % 4096 = (c + (j + 1)) % 4096 := fun j => by
      rw [Nat.mod_add_mod, Nat.add_assoc, Nat.add_comm 1]
    refine ⟨p :: ps, ?_, congrArg (· + 1) hlen, fun i h => ?_⟩
    · rw [writesCode, hp]
      simp only []
      rw [hps, e]
      rfl
    · cases i with
      | zero => exact ⟨p, rfl, by rw [Nat.add_zero, Nat.mod_eq_of_lt hc]; exact hdec⟩
      | succ j =>
        obtain ⟨q, hq, hqd⟩ := hall j (Nat.lt_of_succ_lt_succ h)
        exact ⟨q, hq, e j ▸ hqd⟩

/-! non-vacuity: a request is encodable -/
example : WfReq ([1, 2, 3], List.replicate 11 0) := by unfold WfReq v3Pad; decide

end Msmart.Props.C07
