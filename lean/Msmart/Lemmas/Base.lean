/-
  What every layer uses about `R` (results and error alphabets), reads that can raise IndexError, lists cut at
  known lengths, and little-endian numbers.
-/
import Msmart.Py.Basic
import Msmart.Lemmas.U8

namespace Msmart.Lemmas

theorem ite_and {α} (a b : Prop) [Decidable a] [Decidable b] (x y : α) :
    (if a ∧ b then x else y) = if a then if b then x else y else y := by
  by_cases a <;> simp [*]

theorem ok_of_ite {ε α} {c : Prop} [Decidable c] {a b : α} {e : ε}
    (h : (if c then .ok a else .error e : Except ε α) = .ok b) : c ∧ a = b := by
  split at h <;> cases h; exact ⟨‹c›, rfl⟩

theorem err_of_ite {ε α} {c : Prop} [Decidable c] {a : α} {e e' : ε}
    (h : (if c then .ok a else .error e : Except ε α) = .error e') : e' = e := by
  split at h <;> cases h; rfl

theorem ite_bind {α β} (c : Prop) [Decidable c] (a b : R α) (f : α → R β) :
    ((if c then a else b) >>= f) = if c then a >>= f else b >>= f :=
  apply_ite (· >>= f) c a b

/-- if `r` is an error, it is one of `S`: the exception classes a computation can end in -/
def ErrIn {α} (S : Err → Prop) (r : R α) : Prop := ∀ e, r = .error e → S e

section
variable {α β : Type} {S T : Err → Prop}

theorem ErrIn.mono {r : R α} (h : ErrIn S r) (hst : ∀ e, S e → T e) : ErrIn T r := fun e he => hst e (h e he)

theorem ErrIn.ok {a : α} : ErrIn S (.ok a : R α) := nofun

theorem ErrIn.error {e : Err} (h : S e) : ErrIn S (.error e : R α) := by rintro _ ⟨⟩; exact h

theorem ErrIn.bind {x : R α} {f : α → R β} (hx : ErrIn S x) (hf : ∀ a, ErrIn S (f a)) : ErrIn S (x >>= f) := by
  cases x with
  | error e => exact .error (hx e rfl)
  | ok a => exact hf a

theorem ErrIn.map {x : R α} (g : α → β) (hx : ErrIn S x) : ErrIn S (x.map g) := by
  cases x with
  | error e => exact .error (hx e rfl)
  | ok a => exact .ok

theorem ErrIn.ite {c : Prop} [Decidable c] {a b : R α} (ha : ErrIn S a) (hb : ErrIn S b) :
    ErrIn S (if c then a else b) := by
  split <;> assumption

theorem bind_ok {x : R α} {f : α → R β} {b : β} : x >>= f = .ok b ↔ ∃ a, x = .ok a ∧ f a = .ok b := by
  cases x <;> simp [bind, Except.bind]

end

theorem getElem?_getD {l : Bytes} {i : Nat} (h : i < l.length) : l[i]? = some (l.getD i 0) := by
  simp [List.getD, List.getElem?_eq_getElem h]

theorem idx_lt {l : Bytes} {i : Nat} (h : i < l.length) : Py.idx l i = .ok (l.getD i 0) := by
  rw [Py.idx, getElem?_getD h]

theorem idx_ge {α} {l : List α} {i : Nat} (h : l.length ≤ i) : Py.idx l i = .error indexError := by
  rw [Py.idx, List.getElem?_eq_none h]

abbrev OnlyIdx {α} (r : R α) : Prop := ErrIn (· = indexError) r

theorem idx_onlyIdx {α : Type} (l : List α) (i : Nat) : OnlyIdx (Py.idx l i) := by
  unfold Py.idx; split
  · exact .ok
  · exact .error rfl

theorem OnlyIdx.bind_err {α β : Type} {x : R α} {f : α → R β} (hx : OnlyIdx x) (hf : ∀ a, f a = .error indexError) :
    x >>= f = .error indexError := by
  cases x with
  | error e => rw [hx e rfl]; rfl
  | ok a => exact hf a

theorem take_sub_right {α} (a t : List α) {n : Nat} (h : t.length = n) : (a ++ t).take ((a ++ t).length - n) = a :=
  List.take_left' (by rw [List.length_append, h, Nat.add_sub_cancel])

theorem drop_sub_right {α} (a t : List α) {n : Nat} (h : t.length = n) : (a ++ t).drop ((a ++ t).length - n) = t :=
  List.drop_left' (by rw [List.length_append, h, Nat.add_sub_cancel])

theorem drop_take_of_prefix {α} (H R : List α) (a n : Nat) (h : a + n ≤ H.length) :
    ((H ++ R).drop a).take n = (H.drop a).take n := by
  rw [List.drop_append_of_le_length (by omega), List.take_append_of_le_length (by simp; omega)]

theorem take_sub_drop {α} (l : List α) (a k : Nat) :
    (l.take (l.length - k)).drop a = (l.drop a).take ((l.drop a).length - k) := by
  rw [List.drop_take, List.length_drop]; congr 1; omega

theorem eq_of_nodup_keys {α β} {l : List (α × β)} (h : (l.map Prod.fst).Nodup) :
    ∀ ⦃a⦄, a ∈ l → ∀ ⦃b⦄, b ∈ l → a.1 = b.1 → a = b :=
  List.Pairwise.forall_of_forall_of_flip (fun _ _ _ => rfl) ((List.pairwise_map.1 h).imp fun h e => absurd e h)
    ((List.pairwise_map.1 h).imp fun h e => absurd e.symm h)

theorem toLE_length (k n : Nat) : (Py.toLE k n).length = k := by
  induction k generalizing n with
  | zero => rfl
  | succ k ih => simp [Py.toLE, ih]

theorem fromLE_toLE (k n : Nat) (h : n < 256 ^ k) : Py.fromLE (Py.toLE k n) = n := by
  induction k generalizing n with
  | zero => simp at h; subst h; rfl
  | succ k ih =>
    simp only [Py.toLE, Py.fromLE, u8_mod]
    rw [ih (n / 256) (by rw [Nat.pow_succ] at h; omega)]
    omega

end Msmart.Lemmas
