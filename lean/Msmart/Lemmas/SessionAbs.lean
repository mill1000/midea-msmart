/-
  The abstract connection automaton that the Session model refines.

  Its state is what the session-discipline properties (C07) talk about: the structural write log, the connection
  counter, the session-critical core of the current protocol object and the protocol version.  `A.Step` is the
  effect of one critical operation, named by the event it logs; `A.Run` is any interleaving of critical operations
  with "soft" steps (which leave the abstract state alone, except that the protocol version may move to 3).  The
  invariants of C07 hold of every run of the automaton (`Inv.run`, `V3Inv.run`): the LAN control flow is not
  mentioned.  That every operation of the Session model is such a run is shown in `Lemmas/SessionTrace.lean`.
-/
import Msmart.Model.Session

namespace Msmart.Lemmas.Sess
open Msmart.Model.Session

structure A where
  evs : List Ev := []
  nConn : Nat := 0
  core : Option Core := none
  version : Nat := 2

/-- the three writes: the event each logs and what it does to the core -/
inductive Write : Core → Ev → Core → Prop
  | hs (c : Core) (tok : Bytes) : Write c (.wrHS c.cid c.packetId tok) (bump c)
  | data (c : Core) {k : Bytes} (f : Bytes) : c.localKey = some k → Write c (.wrData c.cid c.packetId k f) (bump c)
  | v2 (c : Core) (f : Bytes) : c.v3 = false → Write c (.wrV2 c.cid f) { c with nWrites := c.nWrites + 1 }

/-- the critical operations that keep the current connection: the event each logs and what it does
    to the core -/
inductive Keep : Core → Ev → Core → Prop
  | write {c c' : Core} {e : Ev} : Write c e c' → Keep c e c'
  | accept (c : Core) (k : Bytes) : Keep c (.accept c.cid k) { c with localKey := some k }
  | forget (c : Core) : Keep c (.forget c.cid) { c with localKey := none }

/-- `a —e→ a'`: one critical operation -/
inductive A.Step : A → Ev → A → Prop
  | connect (l : List Ev) (n v : Nat) :
      Step ⟨l, n, none, v⟩ (.connect (n + 1) (decide (v = 3)))
        ⟨l ++ [.connect (n + 1) (decide (v = 3))], n + 1, some { cid := n + 1, v3 := decide (v = 3) }, v⟩
  | keep (l : List Ev) (n v : Nat) {c c' : Core} {e : Ev} :
      Keep c e c' → Step ⟨l, n, some c, v⟩ e ⟨l ++ [e], n, some c', v⟩
  | closed (l : List Ev) (n v : Nat) (c : Core) :
      Step ⟨l, n, some c, v⟩ (.closed c.cid) ⟨l ++ [.closed c.cid], n, none, v⟩

/-- a soft step: nothing changes, except that the protocol version may be set to 3 -/
def A.Soft (a a' : A) : Prop :=
  a'.evs = a.evs ∧ a'.nConn = a.nConn ∧ a'.core = a.core ∧ (a'.version = a.version ∨ a'.version = 3)

theorem A.Soft.rfl' (a : A) : A.Soft a a := ⟨rfl, rfl, rfl, .inl rfl⟩

/-- paths of a transition system with silent ("soft") steps and steps that log an event, labelled
    by the events logged -/
inductive Path {σ : Type} (soft : σ → σ → Prop) (crit : σ → Ev → σ → Prop) : σ → List Ev → σ → Prop
  | refl (a : σ) : Path soft crit a [] a
  | soft {a a1 a2 : σ} {tr : List Ev} : soft a a1 → Path soft crit a1 tr a2 → Path soft crit a tr a2
  | crit {a a1 a2 : σ} {e : Ev} {tr : List Ev} : crit a e a1 → Path soft crit a1 tr a2 → Path soft crit a (e :: tr) a2

namespace Path
variable {σ τ : Type} {soft : σ → σ → Prop} {crit : σ → Ev → σ → Prop}

theorem trans {a b c : σ} {t1 t2 : List Ev} (h1 : Path soft crit a t1 b) (h2 : Path soft crit b t2 c) :
    Path soft crit a (t1 ++ t2) c := by
  induction h1 with
  | refl => exact h2
  | soft hs _ ih => exact .soft hs (ih h2)
  | crit hc _ ih => exact .crit hc (ih h2)

theorem trans_nil {a b c : σ} {t : List Ev} (h1 : Path soft crit a t b) (h2 : Path soft crit b [] c) :
    Path soft crit a t c := List.append_nil t ▸ h1.trans h2

theorem ofSoft {a b : σ} (h : soft a b) : Path soft crit a [] b := .soft h (.refl b)
theorem ofCrit {a b : σ} {e : Ev} (h : crit a e b) : Path soft crit a [e] b := .crit h (.refl b)

theorem map {soft' : τ → τ → Prop} {crit' : τ → Ev → τ → Prop} (f : σ → τ)
    (hs : ∀ {a b}, soft a b → soft' (f a) (f b)) (hc : ∀ {a e b}, crit a e b → crit' (f a) e (f b))
    {a b : σ} {tr : List Ev} (h : Path soft crit a tr b) : Path soft' crit' (f a) tr (f b) := by
  induction h with
  | refl => exact .refl _
  | soft h _ ih => exact .soft (hs h) ih
  | crit h _ ih => exact .crit (hc h) ih

theorem inv {P : σ → Prop} (hs : ∀ {a b}, soft a b → P a → P b) (hc : ∀ {a e b}, crit a e b → P a → P b)
    {a b : σ} {tr : List Ev} (h : Path soft crit a tr b) (ha : P a) : P b := by
  induction h with
  | refl => exact ha
  | soft h _ ih => exact ih (hs h ha)
  | crit h _ ih => exact ih (hc h ha)

end Path

abbrev A.Run := Path A.Soft A.Step

theorem A.Run.evs {a b : A} {tr : List Ev} (h : A.Run a tr b) : b.evs = a.evs ++ tr := by
  induction h with
  | refl => simp
  | soft hs _ ih => rw [ih, hs.1]
  | crit hc _ ih => rw [ih]; cases hc <;> simp

def evCid : Ev → Nat
  | .connect c _ => c | .wrHS c _ _ => c | .wrData c _ _ _ => c | .wrV2 c _ => c | .accept c _ => c | .forget c => c | .closed c => c

/-- an encrypted request or a V2 packet: anything that carries application data -/
def isData : Ev → Bool
  | .wrData .. => true | .wrV2 .. => true | _ => false

def isConnect : Ev → Bool
  | .connect .. => true | _ => false

def isClosed : Ev → Bool
  | .closed .. => true | _ => false

/-- what one event does to the session key held for connection `cid` -/
def keyStep (cid : Nat) (k : Option Bytes) : Ev → Option Bytes
  | .accept c k' => if c = cid then some k' else k
  | .forget c => if c = cid then none else k
  | _ => k

/-- the session key accepted on connection `cid` by the latest handshake started on it, if that
    handshake succeeded (an acceptance not followed by the start of another handshake) -/
def lastAccept (cid : Nat) (l : List Ev) : Option Bytes := l.foldl (keyStep cid) none

/-- number of V3 packets (handshake requests and encrypted requests) written on connection `cid` -/
def nPackets (cid : Nat) : List Ev → Nat
  | [] => 0
  | .wrHS c _ _ :: t => (if c = cid then 1 else 0) + nPackets cid t
  | .wrData c _ _ _ :: t => (if c = cid then 1 else 0) + nPackets cid t
  | _ :: t => nPackets cid t

theorem lastAccept_snoc (cid : Nat) (l : List Ev) (e : Ev) :
    lastAccept cid (l ++ [e]) = keyStep cid (lastAccept cid l) e := by
  simp [lastAccept, List.foldl_append]

theorem nPackets_append (cid : Nat) (a b : List Ev) : nPackets cid (a ++ b) = nPackets cid a + nPackets cid b := by
  induction a with
  | nil => simp [nPackets]
  | cons e t ih => cases e <;> simp only [List.cons_append, nPackets, ih, Nat.add_assoc]

theorem keyStep_other {cid : Nat} {e : Ev} (h : evCid e ≠ cid) (k : Option Bytes) : keyStep cid k e = k := by
  cases e <;> simp_all [keyStep, evCid]

theorem lastAccept_none_of_bound (cid : Nat) (l : List Ev) (h : ∀ e ∈ l, evCid e < cid) : lastAccept cid l = none := by
  induction l with
  | nil => rfl
  | cons e t ih =>
    obtain ⟨he, ht⟩ := List.forall_mem_cons.1 h
    rw [lastAccept, List.foldl_cons, keyStep_other (Nat.ne_of_lt he)]; exact ih ht

theorem nPackets_eq_zero {cid : Nat} {l : List Ev} (h : ∀ e ∈ l, nPackets cid [e] = 0) : nPackets cid l = 0 := by
  induction l with
  | nil => rfl
  | cons e t ih =>
    obtain ⟨he, ht⟩ := List.forall_mem_cons.1 h
    rw [← List.singleton_append, nPackets_append, he, ih ht]

theorem nPackets_other {cid : Nat} {e : Ev} (h : evCid e ≠ cid) : nPackets cid [e] = 0 := by
  cases e <;> simp_all [nPackets, evCid]

theorem nPackets_zero_of_bound (cid : Nat) (l : List Ev) (h : ∀ e ∈ l, evCid e < cid) : nPackets cid l = 0 :=
  nPackets_eq_zero fun e he => nPackets_other (Nat.ne_of_lt (h e he))

theorem Keep.spec {c c' : Core} {e : Ev} (h : Keep c e c') :
    c'.cid = c.cid ∧ c'.v3 = c.v3 ∧ evCid e = c.cid ∧ isConnect e = false ∧ isClosed e = false ∧
    c'.localKey = keyStep c.cid c.localKey e ∧
    ∀ m, c.packetId = m % 4096 → c'.packetId = (m + nPackets c.cid [e]) % 4096 := by
  rcases h with ⟨_ | _ | _⟩ | _ | _ <;>
    exact ⟨rfl, rfl, rfl, rfl, rfl, by simp [keyStep, bump], fun m hm => by simp [bump, nPackets, hm]⟩

/-! ### the well-formedness of a log (what C07 states), by position -/

/-- what must hold of the event `e` written after the events `pre` -/
def EvOk (pre : List Ev) (e : Ev) : Prop :=
  match e with
  | .wrData cid ctr k _ =>
      lastAccept cid pre = some k ∧ ctr = nPackets cid pre % 4096 ∧
      (∃ v3, .connect cid v3 ∈ pre) ∧ .closed cid ∉ pre
  | .wrHS cid ctr _ =>
      ctr = nPackets cid pre % 4096 ∧ (∃ v3, .connect cid v3 ∈ pre) ∧ .closed cid ∉ pre
  | .wrV2 cid _ => .connect cid false ∈ pre ∧ .closed cid ∉ pre
  | .accept cid _ => (∃ v3, .connect cid v3 ∈ pre) ∧ .closed cid ∉ pre
  | .forget cid => (∃ v3, .connect cid v3 ∈ pre) ∧ .closed cid ∉ pre
  | .connect cid _ => ∀ x ∈ pre, evCid x < cid
  | .closed cid => (∃ v3, .connect cid v3 ∈ pre) ∧ .closed cid ∉ pre

def WF (l : List Ev) : Prop := ∀ pre e post, l = pre ++ [e] ++ post → EvOk pre e

theorem wf_nil : WF [] := by intro pre e post h; simp at h

theorem wf_snoc {l : List Ev} {e : Ev} (h : WF l) (he : EvOk l e) : WF (l ++ [e]) := by
  intro pre x post heq
  rcases List.eq_nil_or_concat post with rfl | ⟨post', y, rfl⟩
  · obtain ⟨rfl, rfl⟩ := List.append_singleton_inj.1 (heq.trans (List.append_nil _))
    exact he
  · rw [List.concat_eq_append, ← List.append_assoc] at heq
    exact h pre x post' (List.append_singleton_inj.1 heq).1

theorem wf_prefix {l m : List Ev} (h : WF (l ++ m)) : WF l := by
  intro pre e post heq
  exact h pre e (post ++ m) (by rw [heq]; simp)

/-! ### the invariant of the automaton -/

structure CoreOk (a : A) (c : Core) : Prop where
  cid : c.cid = a.nConn
  key : c.localKey = lastAccept c.cid a.evs
  ctr : c.packetId = nPackets c.cid a.evs % 4096
  conn : .connect c.cid c.v3 ∈ a.evs
  open_ : .closed c.cid ∉ a.evs

structure Inv (a : A) : Prop where
  bound : ∀ e ∈ a.evs, evCid e ≤ a.nConn
  core : ∀ c, a.core = some c → CoreOk a c
  wf : WF a.evs
  /-- every connection ever made is closed, except the current one -/
  others : ∀ cid v3, .connect cid v3 ∈ a.evs → .closed cid ∈ a.evs ∨ ∃ c, a.core = some c ∧ c.cid = cid

theorem inv_init : Inv {} := ⟨by simp, by simp, wf_nil, by simp⟩

theorem Inv.soft {a a' : A} (h : Inv a) (hs : A.Soft a a') : Inv a' := by
  obtain ⟨l', n', oc', v'⟩ := a'
  obtain ⟨rfl, rfl, rfl, _⟩ := hs
  exact ⟨h.bound, fun c hc => ⟨(h.core c hc).cid, (h.core c hc).key, (h.core c hc).ctr, (h.core c hc).conn, (h.core c hc).open_⟩,
    h.wf, h.others⟩

theorem mem_snoc {α} {x e : α} {l : List α} : x ∈ l ++ [e] ↔ x ∈ l ∨ x = e := by simp

theorem Keep.ok {c c' : Core} {e : Ev} {a : A} (hk : Keep c e c') (ok : CoreOk a c) : EvOk a.evs e := by
  rcases hk with ⟨_ | ⟨_, hkey⟩ | ⟨_, hv⟩⟩ | _ | _
  · exact ⟨ok.ctr, ⟨_, ok.conn⟩, ok.open_⟩
  · exact ⟨by rw [← ok.key, hkey], ok.ctr, ⟨_, ok.conn⟩, ok.open_⟩
  · exact ⟨by rw [← hv]; exact ok.conn, ok.open_⟩
  · exact ⟨⟨_, ok.conn⟩, ok.open_⟩
  · exact ⟨⟨_, ok.conn⟩, ok.open_⟩

theorem Inv.step {a a' : A} {e : Ev} (h : Inv a) (hs : A.Step a e a') : Inv a' := by
  cases hs with
  | connect l n v =>
    -- a brand-new connection id
    have hlt : ∀ x ∈ l, evCid x < n + 1 := fun x hx => Nat.lt_succ_of_le (h.bound x hx)
    refine ⟨List.forall_mem_append.2 ⟨fun x hx => Nat.le_of_lt (hlt x hx), List.forall_mem_singleton.2 (Nat.le_refl _)⟩,
      ?_, wf_snoc h.wf hlt, ?_⟩
    · intro c hc; cases hc
      refine ⟨rfl, ?_, ?_, mem_snoc.2 (.inr rfl), ?_⟩
      · show none = lastAccept (n + 1) (l ++ _)
        rw [lastAccept_snoc, lastAccept_none_of_bound _ _ hlt]; rfl
      · show 0 = nPackets (n + 1) (l ++ _) % 4096
        rw [nPackets_append, nPackets_zero_of_bound _ _ hlt]; rfl
      · intro hm
        rcases mem_snoc.1 hm with hm | hm
        · exact Nat.lt_irrefl _ (hlt _ hm)
        · cases hm
    · intro cid v3 hm
      rcases mem_snoc.1 hm with hm | hm
      · rcases h.others cid v3 hm with hcl | ⟨_, hc0, _⟩
        · exact .inl (mem_snoc.2 (.inl hcl))
        · cases hc0
      · cases hm; exact .inr ⟨_, rfl, rfl⟩
  | @keep l n v c c' e hk =>
    have ok := h.core c rfl
    obtain ⟨hcid, hv3, hecid, hnc, hncl, hkey, hctr⟩ := hk.spec
    refine ⟨List.forall_mem_append.2 ⟨h.bound, List.forall_mem_singleton.2 (Nat.le_of_eq (hecid.trans ok.cid))⟩,
      ?_, wf_snoc h.wf (hk.ok ok), ?_⟩
    · intro c2 hc2; cases hc2
      refine ⟨by rw [hcid]; exact ok.cid, ?_, ?_, ?_, ?_⟩
      · rw [hcid, hkey, ok.key]; exact (lastAccept_snoc ..).symm
      · rw [hcid, hctr _ ok.ctr]; exact congrArg (· % 4096) (nPackets_append ..).symm
      · rw [hcid, hv3]; exact mem_snoc.2 (.inl ok.conn)
      · rw [hcid]; intro hm
        rcases mem_snoc.1 hm with hm | hm
        · exact ok.open_ hm
        · rw [← hm] at hncl; cases hncl
    · intro cid v3 hm
      rcases mem_snoc.1 hm with hm | hm
      · rcases h.others cid v3 hm with hcl | ⟨c0, hc0, hc0id⟩
        · exact .inl (mem_snoc.2 (.inl hcl))
        · cases hc0; exact .inr ⟨c', rfl, by rw [hcid, hc0id]⟩
      · rw [← hm] at hnc; cases hnc
  | closed l n v c =>
    have ok := h.core c rfl
    refine ⟨List.forall_mem_append.2 ⟨h.bound, List.forall_mem_singleton.2 (Nat.le_of_eq ok.cid)⟩, nofun,
      wf_snoc h.wf ⟨⟨_, ok.conn⟩, ok.open_⟩, ?_⟩
    · intro cid v3 hm
      rcases mem_snoc.1 hm with hm | hm
      · rcases h.others cid v3 hm with hcl | ⟨c0, hc0, hc0id⟩
        · exact .inl (mem_snoc.2 (.inl hcl))
        · cases hc0; exact .inl (by rw [← hc0id]; exact mem_snoc.2 (.inr rfl))
      · cases hm

theorem Inv.run {a a' : A} {tr : List Ev} (h : Inv a) (hr : A.Run a tr a') : Inv a' :=
  hr.inv (fun hs h => h.soft hs) (fun hc h => h.step hc) h

/-! ### V3-ness: once the protocol version is 3 every connection is a V3 connection -/

def V3Inv (a : A) : Prop := a.version = 3 ∧ ∀ c, a.core = some c → c.v3 = true

theorem V3Inv.soft {a a' : A} (h : V3Inv a) (hs : A.Soft a a') : V3Inv a' := by
  obtain ⟨_, _, h3, h4⟩ := hs
  exact ⟨h4.elim (·.trans h.1) id, by rw [h3]; exact h.2⟩

theorem V3Inv.step {a a' : A} {e : Ev} (h : V3Inv a) (hs : A.Step a e a') :
    V3Inv a' ∧ (∀ cid f, e ≠ .wrV2 cid f) ∧ (∀ cid v3, e = .connect cid v3 → v3 = true) := by
  cases hs with
  | connect l n v =>
    have hv : decide (v = 3) = true := decide_eq_true h.1
    exact ⟨⟨h.1, by intro c hc; cases hc; exact hv⟩, (by intro _ _ hh; cases hh), by intro _ _ hh; cases hh; exact hv⟩
  | @keep l n v c c' e hk =>
    have hc3 : c.v3 = true := h.2 c rfl
    refine ⟨⟨h.1, by intro c2 hc2; cases hc2; rw [hk.spec.2.1]; exact hc3⟩, ?_, ?_⟩
    · intro _ _ hh; subst hh; obtain ⟨_ | _ | ⟨_, hf⟩⟩ := hk; rw [hc3] at hf; cases hf
    · intro _ _ hh; subst hh; obtain ⟨⟨⟩⟩ := hk
  | closed l n v c =>
    exact ⟨⟨h.1, by intro c2 hc2; cases hc2⟩, (by intro _ _ hh; cases hh), by intro _ _ hh; cases hh⟩

theorem V3Inv.run {a a' : A} {tr : List Ev} (h : V3Inv a) (hr : A.Run a tr a') :
    V3Inv a' ∧ (∀ e ∈ tr, (∀ cid f, e ≠ .wrV2 cid f) ∧ (∀ cid v3, e = .connect cid v3 → v3 = true)) := by
  induction hr with
  | refl => exact ⟨h, nofun⟩
  | soft hs _ ih => exact ih (h.soft hs)
  | crit hc _ ih =>
    obtain ⟨h1, h2⟩ := h.step hc
    obtain ⟨i1, i2⟩ := ih h1
    exact ⟨i1, List.forall_mem_cons.2 ⟨h2, i2⟩⟩

/-! ### a run without connects stays on one connection -/

/-- without a connection only a connect can happen -/
theorem run_from_none {a a' : A} {tr : List Ev} (hr : A.Run a tr a') (hcore : a.core = none)
    (hn : ∀ e ∈ tr, isConnect e = false) : tr = [] ∧ a'.core = none := by
  induction hr with
  | refl => exact ⟨rfl, hcore⟩
  | soft hs _ ih => exact ih (by rw [hs.2.2.1]; exact hcore) hn
  | crit hst _ _ =>
    have hne := hn _ (List.mem_cons_self ..)
    cases hst <;> cases hcore
    cases hne

theorem run_on_conn {a a' : A} {tr : List Ev} (hr : A.Run a tr a') (hn : ∀ e ∈ tr, isConnect e = false)
    (c : Core) (hc : a.core = some c) :
    (∀ e ∈ tr, evCid e = c.cid) ∧ (∀ c', a'.core = some c' → c'.cid = c.cid ∧ c'.v3 = c.v3) ∧
    ((∀ e ∈ tr, isClosed e = false) → a'.core.isSome = true) := by
  induction hr generalizing c with
  | refl a => exact ⟨nofun, by intro c' h'; rw [hc] at h'; cases h'; exact ⟨rfl, rfl⟩, fun _ => by rw [hc]; rfl⟩
  | soft hs _ ih => exact ih hn c (by rw [hs.2.2.1]; exact hc)
  | crit hst hrun ih =>
    obtain ⟨hne, hn'⟩ := List.forall_mem_cons.1 hn
    cases hst with
    | connect => cases hne
    | keep l n v hk =>
      cases hc
      obtain ⟨hcid, hv3, hecid, _⟩ := hk.spec
      obtain ⟨i1, i2, i3⟩ := ih hn' _ rfl
      rw [hcid] at i1; rw [hcid, hv3] at i2
      exact ⟨List.forall_mem_cons.2 ⟨hecid, i1⟩, i2, fun h => i3 (List.forall_mem_cons.1 h).2⟩
    | closed l n v c0 =>
      cases hc
      obtain ⟨rfl, hnone⟩ := run_from_none hrun rfl hn'
      exact ⟨List.forall_mem_singleton.2 rfl, (by intro c' h'; rw [hnone] at h'; cases h'), fun h => by simp [isClosed] at h⟩

end Msmart.Lemmas.Sess
