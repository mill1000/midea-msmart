/-
  Which errors the packet decoders of msmart/lan.py (as modelled) can produce: the exact error
  alphabet of `_Packet.decode`, `_process_packet`, `_decode_encrypted_response`, `_get_local_key`.
  Used by C08 (a decode error is never a timeout) and C09 (containment).
-/
import Msmart.Lemmas.V3

namespace Msmart.Lemmas
open Msmart.Model

/-- `_Packet.decode` fails with a ProtocolError or not at all -/
theorem packetDecode_err {d : Bytes} {e : Err} (h : packetDecode d = .error e) : e = .protocol := by
  revert h
  fun_cases packetDecode d with
  | case1 e' he => rintro ⟨⟩; exact packetCheck_err he
  | case2 => rintro ⟨⟩; rfl
  | case3 => nofun

theorem decodeEncryptedResponse_err {k : Option Bytes} {pkt : Bytes} {e : Err} (hl : 6 ≤ pkt.length)
    (h : decodeEncryptedResponse k pkt = .error e) : e = .protocol := by
  cases k with
  | none => cases h; rfl
  | some k => exact err_of_ite (decodeEncryptedResponse_eq k pkt _ (List.getElem?_eq_getElem (by omega)) ▸ h)

/-- `_process_packet` fails with a ProtocolError, or, on a packet too short to have the bytes `packet[4]` and
    `packet[5]`, with their IndexError -/
theorem processPacket_err_cases {k : Option Bytes} {pkt : Bytes} {e : Err} (h : processPacket k pkt = .error e) :
    e = .protocol ∨ pkt.length < 6 ∧ e = indexError := by
  revert h
  fun_cases processPacket k pkt with
  | case2 _ h4 => rintro ⟨⟩; exact .inr ⟨by have := List.getElem?_eq_none_iff.1 h4; omega, rfl⟩
  | case4 _ _ _ _ h5 => rintro ⟨⟩; exact .inr ⟨by have := List.getElem?_eq_none_iff.1 h5; omega, rfl⟩
  | case5 _ _ _ _ _ h5 =>
    exact fun h => .inl (decodeEncryptedResponse_err (by have := (List.getElem?_eq_some_iff.1 h5).1; omega) h)
  | case6 => nofun
  | _ => rintro ⟨⟩; exact .inl rfl

/-- `_process_packet` on a packet of at least 6 bytes (everything the reassembly queues has at least
    8) fails with a ProtocolError or not at all -/
theorem processPacket_err {k : Option Bytes} {pkt : Bytes} {e : Err} (hl : 6 ≤ pkt.length)
    (h : processPacket k pkt = .error e) : e = .protocol :=
  (processPacket_err_cases h).elim id fun h' => absurd h'.1 (by omega)

/-- `_get_local_key` with a 32-byte key fails with an AuthenticationError or not at all -/
theorem getLocalKey_err {key data : Bytes} {e : Err} (hk : key.length = 32)
    (h : getLocalKey key data = .error e) : e = .auth := by
  by_cases hlen : data.length = 64
  · rw [← List.take_append_drop 32 data, getLocalKey_append _ _ _ (by rw [List.length_take]; omega)
      (by rw [List.length_drop]; omega), if_pos hk] at h
    exact err_of_ite h
  · rw [getLocalKey_bad_length key data hlen] at h; cases h; rfl

end Msmart.Lemmas
