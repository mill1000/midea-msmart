/-
  The stored credentials of the `LAN` object (`_token`, `_key`) in the Session model, and what the
  primitives of the model do to them: nothing.  That nothing but a successful `authenticate` changes
  them, and that it stores exactly the credentials it used (`creds_lanAuthenticate`, `creds_lanSend`),
  follows in `Lemmas/SessionTrace.lean` from `Tr.creds`.
-/
import Msmart.Model.Session

namespace Msmart.Lemmas.Sess
open Msmart.Model.Session

def creds (s : S) : Option Bytes × Option Bytes := (s.l.token, s.l.key)

@[simp] theorem creds_softConn (s : S) (f : Conn → Conn) : creds (softConn s f) = creds s := by
  unfold softConn; split <;> rfl
@[simp] theorem creds_setNow (s : S) (t : Nat) : creds (setNow s t) = creds s := rfl
@[simp] theorem creds_deliverDue (s : S) (e : Timed) : creds (deliverDue s e) = creds s := creds_softConn ..
@[simp] theorem creds_popQueue (s : S) : creds (popQueue s) = creds s := creds_softConn ..
@[simp] theorem creds_flush (s : S) : creds (flush s) = creds s := creds_softConn ..
@[simp] theorem creds_opAccept (s : S) (lk : Bytes) (e : Nat) : creds (opAccept s lk e) = creds s := by
  unfold opAccept; split <;> rfl
@[simp] theorem creds_opForget (s : S) : creds (opForget s) = creds s := by
  unfold opForget; split <;> rfl
@[simp] theorem creds_opDisconnect (s : S) : creds (opDisconnect s) = creds s := by
  unfold opDisconnect; split <;> rfl
@[simp] theorem creds_opConnected (s : S) : creds (opConnected s) = creds s := rfl
@[simp] theorem creds_dropConnect (s : S) : creds (dropConnect s) = creds s := rfl
@[simp] theorem creds_setVersion3 (s : S) : creds (setVersion3 s) = creds s := rfl
@[simp] theorem creds_setLifetime (s : S) (m : Option Nat) : creds (setLifetime s m) = creds s := rfl
@[simp] theorem creds_armCancel (s : S) (ms : Nat) : creds (armCancel s ms) = creds s := rfl
@[simp] theorem creds_disarmCancel (s : S) : creds (disarmCancel s) = creds s := rfl

end Msmart.Lemmas.Sess
