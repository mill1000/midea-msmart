/-
  The Session model (`Model/Session.lean`) as a transition system, and its refinement.

  `Tr` is the step semantics of the model at the grain at which its invariants hold: paths of its primitive
  operations, labelled by the events they log, in which a write and the read await that follows it are ONE
  step and the sleeps (`pump`) are taken whole.  Every procedure of the model is shown once to follow
  such a path, with a trace of a known shape (the `_tr` lemmas); what every step preserves, every
  procedure preserves, by induction over paths (`Path.inv`): `Tr.run` (refinement: a path of the model is a
  run of the abstract automaton of `Lemmas/SessionAbs.lean`), `Tr.unarmed` (no step arms the caller's
  cancellation), `Tr.creds` (none touches the stored credentials), in `Lemmas/SessionContain.lean`
  `Tr.qok`, in `Lemmas/SessionSettle.lean` `SettledV.tr`.
-/
import Msmart.Lemmas.SessionAbs
import Msmart.Lemmas.SessionCreds
import Msmart.Lemmas.PacketErr

namespace Msmart.Lemmas.Sess
open Msmart.Model.Session

def evsOf (s : S) : List Ev := s.w.log.map Prod.snd
def coreOf (s : S) : Option Core := s.l.conn.map (·.core)

def abs (s : S) : A := { evs := evsOf s, nConn := s.w.nConn, core := coreOf s, version := s.l.version }

theorem abs_softConn (s : S) (f : Conn → Conn) : abs (softConn s f) = abs s := by
  unfold softConn
  split
  · rename_i c hc; simp [abs, coreOf, evsOf, hc]
  · rfl

theorem abs_setNow (s : S) (t : Nat) : abs (setNow s t) = abs s := rfl
theorem abs_deliverDue (s : S) (e : Timed) : abs (deliverDue s e) = abs s := abs_softConn ..
theorem abs_popQueue (s : S) : abs (popQueue s) = abs s := abs_softConn ..
theorem abs_flush (s : S) : abs (flush s) = abs s := abs_softConn ..
theorem abs_react (rx : Reactions) (s : S) (cid idx : Nat) : abs (react rx s cid idx) = abs s := rfl
theorem abs_dropConnect (s : S) : abs (dropConnect s) = abs s := rfl
theorem abs_storeCreds (s : S) (t k : Option Bytes) : abs (storeCreds s t k) = abs s := rfl
theorem abs_cancelFired (s : S) (t : Nat) : abs (cancelFired s t) = abs s := rfl
theorem abs_setLifetime (s : S) (m : Option Nat) : abs (setLifetime s m) = abs s := rfl
theorem abs_armCancel (s : S) (ms : Nat) : abs (armCancel s ms) = abs s := rfl
theorem abs_disarmCancel (s : S) : abs (disarmCancel s) = abs s := rfl

theorem applyEvent_core (ev : PeerEvent) (c : Conn) : (applyEvent ev c).core = c.core := by
  fun_cases applyEvent ev c <;> rfl

theorem evsOf_logEv (s : S) (e : Ev) : evsOf (logEv s e) = evsOf s ++ [e] := by simp [evsOf, logEv]

/-! ### `LAN.send` and `LAN.authenticate` after the optional reconnect

  The model writes that part out in both branches; here it has a name. -/

/-- `LAN.send` from where the connection stands: authenticate if need be, then the exchange -/
def sendOn (p : Params) (rx : Reactions) (s : S) (frame : Bytes) (retries : Nat) : R (List Bytes) × S :=
  match ensureAuth p rx s with
  | (.error e, s2) => (.error e, s2)
  | (.ok (), s2) => exchange p rx s2 frame retries

theorem lanSend_eq (p : Params) (rx : Reactions) (s : S) (frame : Bytes) (retries : Nat) :
    lanSend p rx s frame retries =
      if !connAlive s then
        match opConnect p (opDisconnect s) with
        | (.error e, s1) => (.error e, s1)
        | (.ok (), s1) => sendOn p rx s1 frame retries
      else sendOn p rx s frame retries := rfl

/-- `LAN.authenticate` once the connection is there: the retry loop, then storing the credentials -/
def authOn (p : Params) (rx : Reactions) (s : S) (tk ky : Option Bytes) (retries : Nat) : R Unit × S :=
  match authLoop p rx tk ky retries s with
  | (.error e, s2) => (.error e, s2)
  | (.ok (), s2) => finishAuth p s2 tk ky

theorem lanAuthenticate_eq (p : Params) (rx : Reactions) (s : S) (token key : Option Bytes) (retries : Nat) :
    lanAuthenticate p rx s token key retries =
      if !connAlive s || !isV3 s then
        match opConnect p (setVersion3 (opDisconnect s)) with
        | (.error e, s1) => (.error e, s1)
        | (.ok (), s1) => authOn p rx s1 (pickCred token key s.l.token) (pickCred key token s.l.key) retries
      else authOn p rx s (pickCred token key s.l.token) (pickCred key token s.l.key) retries := rfl

/-! ### waiting -/

/-- the steps of the two waiting loops, `pumpUntil` and `awaitQueue` -/
inductive Tick : S → S → Prop
  | setNow (s : S) (t : Nat) : Tick s (setNow s t)
  | deliver (s : S) (e : Timed) : Tick s (deliverDue s e)
  | pop (s : S) : Tick s (popQueue s)
  | cancelFired (s : S) (tc : Nat) : Tick s (cancelFired s tc)

abbrev Ticks (s s' : S) : Prop := Path Tick (fun _ _ _ => False) s [] s'

theorem Ticks.inv {P : S → Prop} (h : ∀ {a b}, Tick a b → P a → P b) {s s' : S} (ht : Ticks s s') (hs : P s) : P s' :=
  Path.inv (soft := Tick) (crit := fun _ _ _ => False) h (fun h => h.elim) ht hs

theorem pump_ticks (s : S) (t : Nat) : Ticks s (pump s t) := by
  unfold pump
  generalize s.w.pending.length = fuel
  fun_induction pumpUntil fuel s t with
  | case1 s t => exact .ofSoft (.setNow ..)
  | case2 _ s t => exact .ofSoft (.setNow ..)
  | case3 _ s t e _ ih => exact .soft (.deliver ..) ih

theorem awaitQueue_ticks {fuel : Nat} {s s' : S} {d : Nat} {r : ReadRes} (h : awaitQueue fuel s d = (r, s')) :
    Ticks s s' := by
  revert h
  fun_induction awaitQueue fuel s d with
  | case1 | case4 => rintro ⟨⟩; exact .ofSoft (.setNow ..)
  | case2 => rintro ⟨⟩; exact .ofSoft (.pop ..)
  | case3 | case5 => rintro ⟨⟩; exact .ofSoft (.cancelFired ..)
  | case6 _ _ _ _ _ _ _ ih => intro h; exact .soft (.deliver ..) (ih h)

theorem cancelAt_softConn (s : S) (f : Conn → Conn) : (softConn s f).w.cancelAt = s.w.cancelAt := by
  unfold softConn; split <;> rfl

theorem Ticks.frame {s s' : S} (h : Ticks s s') :
    abs s' = abs s ∧ creds s' = creds s ∧ (s.w.cancelAt = none → s'.w.cancelAt = none) := by
  refine h.inv (P := fun x => abs x = abs s ∧ creds x = creds s ∧ (s.w.cancelAt = none → x.w.cancelAt = none))
    ?_ ⟨rfl, rfl, id⟩
  rintro a b ht ⟨h1, h2, h3⟩
  cases ht with
  | setNow => exact ⟨h1, h2, h3⟩
  | cancelFired => exact ⟨h1, h2, fun _ => rfl⟩
  | deliver | pop =>
    exact ⟨(abs_softConn ..).trans h1, (creds_softConn ..).trans h2, fun h0 => (cancelAt_softConn ..).trans (h3 h0)⟩

theorem Ticks.core {s s' : S} (h : Ticks s s') : coreOf s' = coreOf s := congrArg A.core h.frame.1

@[simp] theorem creds_pump (s : S) (t : Nat) : creds (pump s t) = creds s := (pump_ticks s t).frame.2.1

/-- a read is cancelled only if a cancellation was armed; otherwise the arming is untouched -/
theorem awaitQueue_cancel {fuel : Nat} {s s' : S} {d : Nat} {r : ReadRes} (h : awaitQueue fuel s d = (r, s')) :
    (r = .cancelled ∧ s.w.cancelAt.isSome = true) ∨ (r ≠ .cancelled ∧ s'.w.cancelAt = s.w.cancelAt) := by
  revert h
  fun_induction awaitQueue fuel s d with
  | case1 | case4 => rintro ⟨⟩; exact .inr ⟨nofun, rfl⟩
  | case2 => rintro ⟨⟩; exact .inr ⟨nofun, cancelAt_softConn ..⟩
  | case3 _ s _ _ _ _ hc | case5 _ s _ _ _ _ _ hc =>
    rintro ⟨⟩
    unfold cancelDue at hc
    cases hs : s.w.cancelAt with
    | none => rw [hs] at hc; cases hc
    | some _ => exact .inl ⟨rfl, rfl⟩
  | case6 _ s _ _ e _ _ ih =>
    intro h
    rw [← show (deliverDue s e).w.cancelAt = s.w.cancelAt from cancelAt_softConn ..]
    exact ih h

theorem awaitQueue_unarmed {fuel : Nat} {s s' : S} {d : Nat} {r : ReadRes} (h0 : s.w.cancelAt = none)
    (h : awaitQueue fuel s d = (r, s')) : r ≠ .cancelled := by
  rcases awaitQueue_cancel h with ⟨_, h2⟩ | ⟨h1, _⟩
  · rw [h0] at h2; cases h2
  · exact h1

/-! ### the steps -/

/-- a successful write (`opWriteHS`, `opWriteData`, `opWriteV2`) on the current connection, which is open -/
inductive Wrote (rx : Reactions) : S → Ev → S → Prop
  | mk {s : S} {c : Conn} {e : Ev} {core' : Core} : s.l.conn = some c → c.closing = false → Write c.core e core' →
      Wrote rx s e (react rx (setCore (logEv s e) c core') c.core.cid c.core.nWrites)

/-- the soft steps: they touch neither the log, nor the connection counter, nor the core, nor the protocol
    version, nor the stored credentials (`setVersion3` and `storeCreds` are not among them: see `verSet`,
    `Stored`).  A sleep is one step: the delivery of an arbitrary event, as in `Tick`, would not keep `SettledV`. -/
inductive Soft : S → S → Prop
  | pump (s : S) (t : Nat) : Soft s (pump s t)
  | pop (s : S) : Soft s (popQueue s)
  | flush (s : S) : Soft s (flush s)
  | dropConnect (s : S) : Soft s (dropConnect s)

/-- the critical steps, with the event each logs: a write together with the read await that follows it
    (every write of the model is followed by one; invariants such as `SettledV` hold before and after
    the pair, not in between), `opAccept`, `opForget`, `opDisconnect` on a connection, `opConnected`
    without one -/
inductive Crit (p : Params) (rx : Reactions) : S → Ev → S → Prop
  | read {s s1 s2 : S} {e : Ev} {r : ReadRes} : Wrote rx s e s1 →
      awaitQueue (s1.w.pending.length + 1) s1 (s1.w.now + p.readTimeout) = (r, s2) → Crit p rx s e s2
  | accept {s : S} {c : Conn} (lk : Bytes) (exp : Nat) : s.l.conn = some c → Crit p rx s (.accept c.core.cid lk) (opAccept s lk exp)
  | forget {s : S} {c : Conn} : s.l.conn = some c → Crit p rx s (.forget c.core.cid) (opForget s)
  | closed {s : S} {c : Conn} : s.l.conn = some c → Crit p rx s (.closed c.core.cid) (opDisconnect s)
  | connect {s : S} : s.l.conn = none → Crit p rx s (.connect (s.w.nConn + 1) (decide (s.l.version = 3))) (opConnected s)

/-- `s —tr→ s'`: a path of steps of the model logging `tr` -/
abbrev Tr (p : Params) (rx : Reactions) := Path Soft (Crit p rx)

variable {p : Params} {rx : Reactions}

/-! ### refinement -/

theorem abs_of_conn {s : S} {o : Option Conn} (hc : s.l.conn = o) :
    abs s = ⟨evsOf s, s.w.nConn, o.map (·.core), s.l.version⟩ := by rw [← hc]; rfl

theorem abs_logEv (s : S) (e : Ev) : abs (logEv s e) = ⟨evsOf s ++ [e], s.w.nConn, coreOf s, s.l.version⟩ := by
  rw [← evsOf_logEv]; rfl

theorem Wrote.refines {s s' : S} {e : Ev} (h : Wrote rx s e s') : A.Step (abs s) e (abs s') := by
  obtain ⟨hc, _, hw⟩ := h
  rw [abs_of_conn hc, abs_react]
  show A.Step _ _ ⟨evsOf (logEv s e), _, _, _⟩
  rw [evsOf_logEv]; exact .keep _ _ _ (.write hw)

theorem Crit.refines {s s' : S} {e : Ev} (h : Crit p rx s e s') : A.Step (abs s) e (abs s') := by
  cases h with
  | read hw hq => rw [(awaitQueue_ticks hq).frame.1]; exact hw.refines
  | accept lk exp hc => rw [abs_of_conn hc]; simp only [opAccept, hc]; rw [abs_logEv]; exact .keep _ _ _ (.accept ..)
  | forget hc => rw [abs_of_conn hc]; simp only [opForget, hc]; rw [abs_logEv]; exact .keep _ _ _ (.forget ..)
  | closed hc => rw [abs_of_conn hc]; simp only [opDisconnect, hc]; rw [abs_logEv]; exact .closed ..
  | connect hc => rw [abs_of_conn hc, opConnected, abs_logEv]; exact .connect ..

theorem Tr.run {s s' : S} {tr : List Ev} (h : Tr p rx s tr s') : A.Run (abs s) tr (abs s') := by
  refine h.map abs (fun hs => ?_) Crit.refines
  cases hs with
  | pump => rw [(pump_ticks ..).frame.1]; exact .rfl' _
  | pop | flush => simp only [abs_popQueue, abs_flush]; exact .rfl' _
  | dropConnect => exact .rfl' _

theorem Tr.evs {s s' : S} {tr : List Ev} (h : Tr p rx s tr s') : evsOf s' = evsOf s ++ tr := h.run.evs

/-! ### cancellation and stored credentials: no step arms the one or touches the other -/

theorem cancelAt_opAccept (s : S) (lk : Bytes) (e : Nat) : (opAccept s lk e).w.cancelAt = s.w.cancelAt := by
  unfold opAccept; split <;> rfl
theorem cancelAt_opForget (s : S) : (opForget s).w.cancelAt = s.w.cancelAt := by
  unfold opForget; split <;> rfl
theorem cancelAt_opDisconnect (s : S) : (opDisconnect s).w.cancelAt = s.w.cancelAt := by
  unfold opDisconnect; split <;> rfl

theorem Tr.unarmed {s s' : S} {tr : List Ev} (h : Tr p rx s tr s') (h0 : s.w.cancelAt = none) : s'.w.cancelAt = none := by
  refine h.inv (P := fun s => s.w.cancelAt = none) ?_ ?_ h0
  · intro a b hs ha
    cases hs with
    | pump => exact (pump_ticks ..).frame.2.2 ha
    | pop | flush => exact (cancelAt_softConn ..).trans ha
    | dropConnect => exact ha
  · intro a e b hc ha
    cases hc with
    | read hw hq => obtain ⟨_, _, _⟩ := hw; exact (awaitQueue_ticks hq).frame.2.2 ha
    | accept => exact (cancelAt_opAccept ..).trans ha
    | forget => exact (cancelAt_opForget ..).trans ha
    | closed => exact (cancelAt_opDisconnect ..).trans ha
    | connect => exact ha

theorem Tr.creds {s s' : S} {tr : List Ev} (h : Tr p rx s tr s') : creds s' = creds s := by
  refine h.inv (P := fun s' => Sess.creds s' = Sess.creds s) ?_ ?_ rfl
  · intro a b hs ha
    cases hs with
    | pump | pop | flush => simpa using ha
    | dropConnect => exact ha
  · intro a e b hc ha
    cases hc with
    | read hw hq => obtain ⟨_, _, _⟩ := hw; exact (awaitQueue_ticks hq).frame.2.1.trans ha
    | accept | forget | closed => simpa using ha
    | connect => exact ha

/-! ### kinds of events, shapes of traces -/

def isHs : Ev → Bool | .wrHS .. => true | _ => false
def isAccept : Ev → Bool | .accept .. => true | _ => false
def isForget : Ev → Bool | .forget .. => true | _ => false

/-- a data packet carrying `frame` -/
def DataOf (frame : Bytes) (e : Ev) : Prop := (∃ cid ctr k, e = .wrData cid ctr k frame) ∨ (∃ cid, e = .wrV2 cid frame)

/-- the events of a reconnect -/
def ConnEv : Ev → Prop
  | .closed .. | .connect .. => True
  | _ => False

/-- the events of an authentication with the token `tok` -/
def AuthEv (tok : Option Bytes) : Ev → Prop
  | .wrHS _ _ t => tok = some t
  | .accept .. | .forget .. | .closed .. => True
  | _ => False

/-- the events of an exchange of `frame` -/
def XchgEv (frame : Bytes) : Ev → Prop
  | .wrData _ _ _ f | .wrV2 _ f => f = frame
  | .closed .. => True
  | _ => False

/-- the trace of an operation that logs `f c` on a connection with core `c`, and nothing without one -/
theorem forall_mem_optEv {P : Ev → Prop} {f : Core → Ev} (o : Option Core) (h : ∀ c, P (f c)) :
    ∀ e ∈ o.toList.map f, P e := by cases o <;> simp [h]

theorem ConnEv.spec {e : Ev} (h : ConnEv e) : isData e = false ∧ isHs e = false := by
  cases e <;> simp_all [ConnEv, isData, isHs]

theorem AuthEv.spec {tok : Option Bytes} {e : Ev} (h : AuthEv tok e) :
    isData e = false ∧ isConnect e = false ∧ ∀ cid ctr t, e = .wrHS cid ctr t → tok = some t := by
  cases e <;> simp_all [AuthEv, isData, isConnect]

theorem XchgEv.spec {f : Bytes} {e : Ev} (h : XchgEv f e) :
    isConnect e = false ∧ isHs e = false ∧ (isData e = true → DataOf f e) := by
  cases e <;> simp_all [XchgEv, isData, isConnect, isHs, DataOf]

theorem DataOf.xchg {f : Bytes} {e : Ev} (h : DataOf f e) : XchgEv f e ∧ isData e = true := by
  rcases h with ⟨_, _, _, rfl⟩ | ⟨_, rfl⟩ <;> exact ⟨rfl, rfl⟩

theorem DataOf.isData {f : Bytes} {e : Ev} (h : DataOf f e) : isData e = true := h.xchg.2

/-- number of data packets (encrypted requests / V2 packets) in a trace = transmissions -/
def nData (tr : List Ev) : Nat := (tr.filter isData).length

theorem nData_append (a b : List Ev) : nData (a ++ b) = nData a + nData b := by simp [nData]

theorem nData_eq_zero {tr : List Ev} (h : ∀ e ∈ tr, isData e = false) : nData tr = 0 := by
  rw [nData, List.length_eq_zero_iff, List.filter_eq_nil_iff]
  intro e he; rw [h e he]; nofun

/-! ### the primitive procedures -/

theorem pump_tr (s : S) (t : Nat) : Tr p rx s [] (pump s t) := .ofSoft (.pump s t)

theorem readAvailable_tr {fuel : Nat} {s s' : S} {acc : List Bytes} {r : R (List Bytes)}
    (h : readAvailable fuel s acc = (r, s')) : Tr p rx s [] s' := by
  revert h
  fun_induction readAvailable fuel s acc with
  | case1 | case2 => rintro ⟨⟩; exact .refl _
  | case3 => rintro ⟨⟩; exact .ofSoft (.pop ..)
  | case4 _ _ _ _ _ _ _ ih => intro h; exact .soft (.pop ..) (ih h)

theorem opWriteHS_ok {s s' : S} {tok : Bytes} (h : opWriteHS rx s tok = .ok s') :
    ∃ cid ctr, Wrote rx s (.wrHS cid ctr tok) s' := by
  revert h
  fun_cases opWriteHS rx s tok <;> rintro ⟨⟩
  rename_i c hc _ hcl
  exact ⟨_, _, .mk hc (Bool.eq_false_iff.2 hcl) (.hs ..)⟩

theorem opWrite_ok {s s' : S} {f : Bytes} (h : opWrite rx s f = .ok s') : ∃ e, DataOf f e ∧ Wrote rx s e s' := by
  unfold opWrite at h
  split at h
  · revert h
    fun_cases opWriteData rx s f <;> rintro ⟨⟩
    rename_i c hc k hk hcl
    exact ⟨_, .inl ⟨_, _, _, rfl⟩, .mk hc (Bool.eq_false_iff.2 hcl) (.data _ _ hk)⟩
  · rename_i hv
    revert h
    fun_cases opWriteV2 rx s f <;> rintro ⟨⟩
    rename_i c hc hcl
    exact ⟨_, .inr ⟨_, rfl⟩, .mk hc (Bool.eq_false_iff.2 hcl) (.v2 _ _ (by simpa [isV3, hc] using hv))⟩

theorem read_tr {s s1 s2 : S} {e : Ev} {r : ReadRes} (hw : Wrote rx s e s1)
    (hq : awaitQueue (s1.w.pending.length + 1) s1 (s1.w.now + p.readTimeout) = (r, s2)) :
    Tr p rx s [e] s2 ∧ (coreOf s2).isSome = true ∧ (s.w.cancelAt = none → r ≠ .cancelled) := by
  refine ⟨.ofCrit (.read hw hq), ?_, fun h0 => awaitQueue_unarmed ?_ hq⟩
  · rw [(awaitQueue_ticks hq).core]; obtain ⟨_, _, _⟩ := hw; rfl
  · obtain ⟨_, _, _⟩ := hw; exact h0

theorem opForget_tr (s : S) : Tr p rx s ((coreOf s).toList.map (.forget ·.cid)) (opForget s) := by
  cases hc : s.l.conn with
  | none => unfold opForget coreOf; rw [hc]; exact .refl _
  | some c => unfold coreOf; rw [hc]; exact .ofCrit (.forget hc)

theorem opDisconnect_tr (s : S) : Tr p rx s ((coreOf s).toList.map (.closed ·.cid)) (opDisconnect s) := by
  cases hc : s.l.conn with
  | none => unfold opDisconnect coreOf; rw [hc]; exact .refl _
  | some c => unfold coreOf; rw [hc]; exact .ofCrit (.closed hc)

@[simp] theorem opDisconnect_l (s : S) : (opDisconnect s).l = { s.l with conn := none } := by
  unfold opDisconnect
  split
  · rfl
  · rename_i h; rw [← h]

@[simp] theorem opDisconnect_w (s : S) :
    (opDisconnect s).w = { s.w with log := s.w.log ++ (s.l.conn.map fun c => (s.w.now, Ev.closed c.core.cid)).toList } := by
  unfold opDisconnect
  split <;> simp [logEv, *]

theorem conn_opDisconnect (s : S) : (opDisconnect s).l.conn = none := by simp

@[simp] theorem token_opConnected (s : S) : (opConnected s).l.token = s.l.token := rfl
@[simp] theorem version_opConnected (s : S) : (opConnected s).l.version = s.l.version := rfl

theorem coreOf_opConnected (s : S) :
    coreOf (opConnected s) = some { cid := s.w.nConn + 1, v3 := decide (s.l.version = 3) } := by
  simp [opConnected, coreOf, logEv]

theorem isV3_opConnected (s : S) : isV3 (opConnected s) = decide (s.l.version = 3) := by
  simp [isV3, opConnected, logEv]

theorem authenticated_opConnected (s : S) : authenticated (opConnected s) = false := by
  simp [authenticated, opConnected, logEv]

/-- `_connect()` without a current connection: a connect step, or nothing -/
theorem opConnect_tr {s s' : S} {r : R Unit} (hc : s.l.conn = none) (h : opConnect p s = (r, s')) :
    (r = .ok () ∧ s' = opConnected (dropConnect s) ∧ Tr p rx s [.connect (s.w.nConn + 1) (decide (s.l.version = 3))] s') ∨
    ((r = .error .protocol ∨ r = .error .timeout) ∧ Tr p rx s [] s') := by
  revert h
  fun_cases opConnect p s <;> rintro ⟨⟩
  · exact .inr ⟨.inl rfl, .ofSoft (.dropConnect s)⟩
  · exact .inr ⟨.inl rfl, .ofSoft (.dropConnect s)⟩
  · exact .inr ⟨.inr rfl, .soft (.dropConnect s) (pump_tr ..)⟩
  · exact .inl ⟨rfl, rfl, .soft (.dropConnect s) (.ofCrit (.connect hc))⟩

/-- `_disconnect()`, then `_connect()` -/
theorem reconnect_tr {s s1 : S} {r : R Unit} (h : opConnect p (opDisconnect s) = (r, s1)) :
    ∃ tc, Tr p rx s tc s1 ∧ (∀ e ∈ tc, ConnEv e) ∧ (∀ c, coreOf s = some c → ∃ tc', tc = .closed c.cid :: tc') ∧
      (r = .ok () → s1 = opConnected (dropConnect (opDisconnect s))) := by
  have hd := opDisconnect_tr (p := p) (rx := rx) s
  have hsd : ∀ e ∈ (coreOf s).toList.map (Ev.closed ·.cid), ConnEv e := forall_mem_optEv _ fun _ => trivial
  rcases opConnect_tr (conn_opDisconnect s) h with ⟨_, hs1, ht⟩ | ⟨hr, ht⟩
  · exact ⟨_, hd.trans ht, List.forall_mem_append.2 ⟨hsd, List.forall_mem_singleton.2 trivial⟩,
      fun c hc => by rw [hc]; exact ⟨_, rfl⟩, fun _ => hs1⟩
  · exact ⟨_, hd.trans_nil ht, hsd, fun c hc => by rw [hc]; exact ⟨_, rfl⟩, by rcases hr with rfl | rfl <;> nofun⟩

/-! ### authentication -/

theorem acceptReply_tr {s s' : S} {key raw : Bytes} {r : R Unit} (hc : (coreOf s).isSome = true)
    (h : acceptReply p s key raw = (r, s')) :
    (r = .ok () ∧ ∃ cid lk, Tr p rx s [.accept cid lk] s') ∨ ((∃ e, r = .error e) ∧ s' = s) := by
  revert h
  fun_cases acceptReply p s key raw with
  | case1 | case2 | case3 => rintro ⟨⟩; exact .inr ⟨⟨_, rfl⟩, rfl⟩
  | case4 =>
    rintro ⟨⟩
    cases hs : s.l.conn with
    | none => simp [coreOf, hs] at hc
    | some c => exact .inl ⟨rfl, _, _, .ofCrit (.accept _ _ hs)⟩

/-- one handshake attempt: the previous key is forgotten, at most one handshake request carrying the
    token is written, then possibly an acceptance -/
theorem protoAuthenticate_tr {s s' : S} {token key : Option Bytes} {r : R Unit}
    (h : protoAuthenticate p rx s token key = (r, s')) :
    ∃ tr, Tr p rx s tr s' ∧ (∀ e ∈ tr, AuthEv token e ∧ isClosed e = false) ∧
      (r = .ok () → ∃ e ∈ tr, isAccept e = true) := by
  have hf : Tr p rx s _ (opForget (flush s)) := .soft (.flush s) (opForget_tr _)
  have hsf : ∀ e ∈ (coreOf (flush s)).toList.map (Ev.forget ·.cid), AuthEv token e ∧ isClosed e = false :=
    forall_mem_optEv _ fun _ => ⟨trivial, rfl⟩
  -- the handshake request and the wait for its reply
  have hwq : ∀ {tk s1 s2 rr}, token = some tk → opWriteHS rx (opForget (flush s)) tk = .ok s1 →
      awaitQueue (s1.w.pending.length + 1) s1 (s1.w.now + p.readTimeout) = (rr, s2) →
      ∃ tr, Tr p rx s tr s2 ∧ (∀ e ∈ tr, AuthEv token e ∧ isClosed e = false) ∧ (coreOf s2).isSome = true := by
    intro tk s1 s2 rr htk hw hq
    obtain ⟨_, _, hw⟩ := opWriteHS_ok hw
    obtain ⟨hr, hc2, _⟩ := read_tr hw hq
    exact ⟨_, hf.trans hr, List.forall_mem_append.2 ⟨hsf, List.forall_mem_singleton.2 ⟨htk, rfl⟩⟩, hc2⟩
  revert h
  fun_cases protoAuthenticate p rx s token key with
  | case1 | case7 => rintro ⟨⟩; exact ⟨[], .refl _, nofun, nofun⟩
  | case2 | case3 => rintro ⟨⟩; exact ⟨_, hf, hsf, nofun⟩
  | case4 _ _ _ _ hw _ hq | case5 _ _ _ _ hw _ hq =>
    rintro ⟨⟩
    obtain ⟨tr, ht, hs, _⟩ := hwq rfl hw hq
    exact ⟨tr, ht, hs, nofun⟩
  | case6 _ _ _ _ hw _ _ hq =>
    intro h
    obtain ⟨tr, ht, hs, hc⟩ := hwq rfl hw hq
    rcases acceptReply_tr hc h with ⟨rfl, cid, lk, hta⟩ | ⟨⟨e, rfl⟩, rfl⟩
    · exact ⟨_, ht.trans hta, List.forall_mem_append.2 ⟨hs, List.forall_mem_singleton.2 ⟨trivial, rfl⟩⟩,
        fun _ => ⟨.accept cid lk, List.mem_append_right _ (List.mem_singleton_self _), rfl⟩⟩
    · exact ⟨tr, ht, hs, nofun⟩

theorem authLoop_tr {token key : Option Bytes} {n : Nat} {s s' : S} {r : R Unit}
    (h : authLoop p rx token key n s = (r, s')) :
    ∃ tr, Tr p rx s tr s' ∧ (∀ e ∈ tr, AuthEv token e) ∧
      (r = .ok () → (n = 0 ∧ s' = s) ∨ ∃ e ∈ tr, isAccept e = true) := by
  revert h
  fun_induction authLoop p rx token key n s with
  | case1 => rintro ⟨⟩; exact ⟨[], .refl _, nofun, fun _ => .inl ⟨rfl, rfl⟩⟩
  | case2 _ _ _ hp =>
    rintro ⟨⟩
    obtain ⟨tr, ht, hs, ha⟩ := protoAuthenticate_tr hp
    exact ⟨tr, ht, fun e he => (hs e he).1, fun _ => .inr (ha rfl)⟩
  | case3 _ _ _ hp hn ih =>
    intro h
    obtain ⟨t1, ht1, hs1, _⟩ := protoAuthenticate_tr hp
    obtain ⟨t2, ht2, hs2, ha2⟩ := ih h
    refine ⟨t1 ++ t2, ht1.trans ht2, List.forall_mem_append.2 ⟨fun e he => (hs1 e he).1, hs2⟩, fun hr => ?_⟩
    rcases ha2 hr with ⟨h0, _⟩ | ⟨e, he, ha⟩
    · omega
    · exact .inr ⟨e, List.mem_append_right _ he, ha⟩
  | case4 _ _ s1 hp =>
    rintro ⟨⟩
    obtain ⟨t1, ht1, hs1, _⟩ := protoAuthenticate_tr hp
    exact ⟨_, ht1.trans (opDisconnect_tr s1),
      List.forall_mem_append.2 ⟨fun e he => (hs1 e he).1, forall_mem_optEv _ fun _ => trivial⟩, nofun⟩
  | case5 _ _ _ _ _ hp =>
    rintro ⟨⟩
    obtain ⟨tr, ht, hs, _⟩ := protoAuthenticate_tr hp
    exact ⟨tr, ht, fun e he => (hs e he).1, nofun⟩

/-- how `finishAuth` ends: unchanged with an error; or the credentials are stored — no step of `Tr` — and
    the sleep follows -/
def Stored (r : R Unit) (tk ky : Option Bytes) (s s' : S) : Prop :=
  ((∃ e, r = .error e) ∧ s' = s) ∨ (r = .ok () ∧ ∃ t, s' = pump (storeCreds s tk ky) t)

theorem finishAuth_stored {s s' : S} {tk ky : Option Bytes} {r : R Unit} (h : finishAuth p s tk ky = (r, s')) :
    Stored r tk ky s s' ∧ (r = .ok () → authenticated s = true) := by
  revert h
  fun_cases finishAuth p s tk ky <;> rintro ⟨⟩
  · exact ⟨.inl ⟨⟨_, rfl⟩, rfl⟩, nofun⟩
  · rename_i ha; exact ⟨.inr ⟨rfl, _, rfl⟩, fun _ => by simpa using ha⟩

theorem Stored.inv {r : R Unit} {tk ky : Option Bytes} {s s' : S} {P : S → Prop} (h : Stored r tk ky s s')
    (hst : ∀ t, P s → P (pump (storeCreds s tk ky) t)) (hs : P s) : P s' := by
  rcases h with ⟨_, rfl⟩ | ⟨_, _, rfl⟩
  · exact hs
  · exact hst _ hs

theorem Stored.run {r : R Unit} {tk ky : Option Bytes} {s s' : S} (h : Stored r tk ky s s') :
    A.Run (abs s) [] (abs s') :=
  h.inv (P := fun x => A.Run (abs s) [] (abs x)) (fun _ _ => by rw [(pump_ticks ..).frame.1]; exact .refl _) (.refl _)

theorem Stored.creds {r : R Unit} {tk ky : Option Bytes} {s s' : S} (h : Stored r tk ky s s') :
    (r = .ok () ∧ creds s' = (tk, ky)) ∨ ((∃ e, r = .error e) ∧ creds s' = creds s) := by
  rcases h with ⟨hr, rfl⟩ | ⟨hr, _, rfl⟩
  · exact .inr ⟨hr, rfl⟩
  · exact .inl ⟨hr, creds_pump ..⟩

theorem authOn_tr {tk ky : Option Bytes} {n : Nat} {s s' : S} {r : R Unit}
    (h : authOn p rx s tk ky n = (r, s')) :
    ∃ ta s2, Tr p rx s ta s2 ∧ Stored r tk ky s2 s' ∧ (∀ e ∈ ta, AuthEv tk e) ∧
      (r = .ok () → authenticated s = false → ∃ e ∈ ta, isAccept e = true) := by
  unfold authOn at h
  split at h
  · rename_i hl
    cases h
    obtain ⟨ta, hta, hs, _⟩ := authLoop_tr hl
    exact ⟨ta, _, hta, .inl ⟨⟨_, rfl⟩, rfl⟩, hs, nofun⟩
  · rename_i s2 hl
    obtain ⟨ta, hta, hs, ha⟩ := authLoop_tr hl
    obtain ⟨hf, hauth⟩ := finishAuth_stored h
    refine ⟨ta, s2, hta, hf, hs, fun hr hna => ?_⟩
    rcases ha rfl with ⟨_, rfl⟩ | ha
    · rw [hauth hr] at hna; cases hna
    · exact ha

/-- `LAN.authenticate` sets the protocol version to 3 when it reconnects: like `storeCreds` at its end, no
    step of `Tr` -/
def verSet (s : S) : S := if !connAlive s || !isV3 s then setVersion3 s else s

theorem verSet_inv {P : S → Prop} {s : S} (hv : P s → P (setVersion3 s)) (hs : P s) : P (verSet s) := by
  unfold verSet; split
  · exact hv hs
  · exact hs

theorem opDisconnect_setVersion3 (s : S) : opDisconnect (setVersion3 s) = setVersion3 (opDisconnect s) := by
  unfold opDisconnect
  rw [show (setVersion3 s).l.conn = s.l.conn from rfl]
  split <;> rfl

/-- what `LAN.authenticate` has done when it ends in `(r, s')`: the version set, then a path `tc ++ ta` to
    `s2` — possibly a reconnect (`ConnEv`), then the events of an authentication with the selected token
    (`AuthEv`), an acceptance among them if it succeeds from an unauthenticated state — and at the end the
    credentials used are stored -/
structure Authed (p : Params) (rx : Reactions) (tok key : Option Bytes) (s : S) (r : R Unit) (s' : S)
    (tc ta : List Ev) (s2 : S) : Prop where
  path : Tr p rx (verSet s) (tc ++ ta) s2
  stored : Stored r tok key s2 s'
  conn : ∀ e ∈ tc, ConnEv e
  auth : ∀ e ∈ ta, AuthEv tok e
  alive : connAlive s = true → isV3 s = true → tc = []
  accept : r = .ok () → authenticated s = false → ∃ e ∈ ta, isAccept e = true

theorem lanAuthenticate_tr {s s' : S} {token key : Option Bytes} {n : Nat} {r : R Unit}
    (h : lanAuthenticate p rx s token key n = (r, s')) :
    ∃ tc ta s2, Authed p rx (pickCred token key s.l.token) (pickCred key token s.l.key) s r s' tc ta s2 := by
  rw [lanAuthenticate_eq] at h
  split at h
  · rename_i hcond
    have hv : verSet s = setVersion3 s := if_pos hcond
    have hcontra : ∀ {α : Prop}, connAlive s = true → isV3 s = true → α := fun h1 h2 => by simp [h1, h2] at hcond
    rw [← opDisconnect_setVersion3] at h
    split at h
    · rename_i hco
      cases h
      obtain ⟨tc, htc, hs, _⟩ := reconnect_tr hco
      exact ⟨tc, [], _, by rw [hv]; exact htc.trans (.refl _), .inl ⟨⟨_, rfl⟩, rfl⟩, hs, nofun, hcontra, nofun⟩
    · rename_i hco
      obtain ⟨tc, htc, hs, _, hs1⟩ := reconnect_tr hco
      obtain ⟨ta, s2, hta, hst, hsa, hacc⟩ := authOn_tr h
      exact ⟨tc, ta, s2, by rw [hv]; exact htc.trans hta, hst, hs, hsa, hcontra,
        fun hr _ => hacc hr (by rw [hs1 rfl]; exact authenticated_opConnected _)⟩
  · rename_i hcond
    have hv : verSet s = s := if_neg hcond
    obtain ⟨ta, s2, hta, hst, hsa, hacc⟩ := authOn_tr h
    exact ⟨[], ta, s2, by rw [hv]; exact hta, hst, nofun, hsa, fun _ _ => rfl, hacc⟩

theorem Authed.run {tok key : Option Bytes} {s s' s2 : S} {r : R Unit} {tc ta : List Ev}
    (i : Authed p rx tok key s r s' tc ta s2) : A.Run (abs s) (tc ++ ta) (abs s') :=
  .soft (verSet_inv (P := fun x => A.Soft (abs s) (abs x)) (fun _ => ⟨rfl, rfl, rfl, .inr rfl⟩) (.rfl' _))
    (i.path.run.trans_nil i.stored.run)

theorem Authed.run_of_none {tok key : Option Bytes} {s s' s2 : S} {r : R Unit} {tc ta : List Ev}
    (i : Authed p rx tok key s r s' tc ta s2) (hs : s.l.conn = none) : A.Run (abs (setVersion3 s)) (tc ++ ta) (abs s') := by
  have := i.path
  rw [show verSet s = setVersion3 s by simp [verSet, connAlive, hs]] at this
  exact this.run.trans_nil i.stored.run

theorem lanAuthenticate_inv {P : S → Prop} (hv : ∀ {s}, P s → P (setVersion3 s))
    (htr : ∀ {s tr s'}, Tr p rx s tr s' → P s → P s') (hst : ∀ {s} tk ky t, P s → P (pump (storeCreds s tk ky) t))
    {s s' : S} {token key : Option Bytes} {n : Nat} {r : R Unit} (h : lanAuthenticate p rx s token key n = (r, s'))
    (hs : P s) : P s' := by
  obtain ⟨_, _, _, i⟩ := lanAuthenticate_tr h
  exact i.stored.inv (hst _ _) (htr i.path (verSet_inv hv hs))

/-- `LAN.authenticate` stores the credentials it used, and only when it succeeds -/
theorem creds_lanAuthenticate {s s' : S} {token key : Option Bytes} {n : Nat} {r : R Unit}
    (h : lanAuthenticate p rx s token key n = (r, s')) :
    (r = .ok () ∧ creds s' = (pickCred token key s.l.token, pickCred key token s.l.key)) ∨
    ((∃ e, r = .error e) ∧ creds s' = creds s) := by
  obtain ⟨_, _, _, i⟩ := lanAuthenticate_tr h
  exact i.stored.creds.imp_right fun ⟨hr, hc⟩ => ⟨hr, hc.trans (verSet_inv (P := fun x => creds x = creds s) (fun _ => rfl) rfl ▸ i.path.creds)⟩

/-! ### exchanges -/

/-- `LAN._read` fails with a ProtocolError, or with the IndexError of `packet[4]` / `packet[5]` on a V3 item
    of less than 6 bytes -/
theorem decodeRead_err {s : S} {raw : Bytes} {e : Err} (h : decodeRead s raw = .error e) :
    e = .protocol ∨ (e = indexError ∧ isV3 s = true ∧ raw.length < 6) := by
  unfold decodeRead at h
  split at h
  · rename_i hv
    split at h
    · rename_i e' he; cases h
      exact (processPacket_err_cases he).imp_right fun ⟨hl, h⟩ => ⟨h, hv, hl⟩
    · exact .inl (packetDecode_err h)
  · exact .inl (packetDecode_err h)

/-- a write fails with a ProtocolError, or with the AssertionError of a missing connection -/
theorem opWrite_err {s : S} {f : Bytes} {e : Err} (h : opWrite rx s f = .error e) :
    e = .protocol ∨ (e = .py "AssertionError" ∧ s.l.conn = none) := by
  unfold opWrite at h
  split at h <;> revert h
  · fun_cases opWriteData rx s f <;> rintro ⟨⟩
    · exact .inr ⟨rfl, ‹_›⟩
    · exact .inl rfl
    · exact .inl rfl
  · fun_cases opWriteV2 rx s f <;> rintro ⟨⟩
    · exact .inr ⟨rfl, ‹_›⟩
    · exact .inl rfl

theorem readAvailable_err {fuel : Nat} {s s' : S} {acc : List Bytes} {e : Err}
    (h : readAvailable fuel s acc = (.error e, s')) : e = .protocol ∨ e = indexError := by
  revert h
  fun_induction readAvailable fuel s acc with
  | case1 | case2 => nofun
  | case3 _ _ _ _ _ _ hd => rintro ⟨⟩; exact (decodeRead_err hd).imp_right And.left
  | case4 _ _ _ _ _ _ _ ih => exact ih

/-- what transmitting `frame` with the retry budget `n` from `s`, ending in `(r, s')`, has logged: only
    data packets carrying the frame (and a close), at most `n` of them; a timeout result means the
    connection was dropped and — unless the caller's cancellation was armed — exactly `n` were written;
    success means at least one was written (unless `n = 0`) -/
structure Sent (p : Params) (rx : Reactions) (frame : Bytes) (n : Nat) (s : S) (r : R (List Bytes)) (s' : S)
    (tr : List Ev) : Prop where
  path : Tr p rx s tr s'
  shape : ∀ e ∈ tr, XchgEv frame e
  le : nData tr ≤ n
  timeout : r = .error .timeout → s'.l.conn = none ∧ (s.w.cancelAt = none → nData tr = n)
  ok : ∀ got, r = .ok got → n = 0 ∨ 1 ≤ nData tr

/-- one transmission (write and wait), then whatever follows -/
theorem Sent.cons {frame : Bytes} {m : Nat} {s s2 s' : S} {r : R (List Bytes)} {ev : Ev} {t2 : List Ev}
    (hd : DataOf frame ev) (h1 : Tr p rx s [ev] s2) (h2 : Tr p rx s2 t2 s') (hs : ∀ e ∈ t2, XchgEv frame e) (hle : nData t2 ≤ m)
    (hto : r = .error .timeout → s'.l.conn = none ∧ (s.w.cancelAt = none → nData t2 = m)) :
    Sent p rx frame (m + 1) s r s' (ev :: t2) := by
  have hn : nData (ev :: t2) = nData t2 + 1 := by simp [nData, hd.isData]
  exact ⟨h1.trans h2, List.forall_mem_cons.2 ⟨hd.xchg.1, hs⟩, by omega,
    fun hr => ⟨(hto hr).1, fun h0 => by rw [hn, (hto hr).2 h0]⟩, fun _ _ => .inr (by omega)⟩

/-- the last transmission: after it the connection is dropped, or nothing happens -/
theorem Sent.last {frame : Bytes} {m : Nat} {s s2 s' : S} {r : R (List Bytes)} {ev : Ev} {o : Option Core}
    (hd : DataOf frame ev) (h1 : Tr p rx s [ev] s2) (h2 : Tr p rx s2 (o.toList.map (Ev.closed ·.cid)) s')
    (hto : r = .error .timeout → s'.l.conn = none ∧ (s.w.cancelAt = none → m = 0)) :
    Sent p rx frame (m + 1) s r s' (ev :: o.toList.map (Ev.closed ·.cid)) := by
  have h0 : nData (o.toList.map (Ev.closed ·.cid)) = 0 := nData_eq_zero (forall_mem_optEv _ fun _ => rfl)
  exact .cons hd h1 h2 (forall_mem_optEv _ fun _ => trivial) (by omega)
    fun hr => ⟨(hto hr).1, fun hu => by rw [h0, (hto hr).2 hu]⟩

theorem sendLoop_tr {frame : Bytes} {n : Nat} {s s' : S} {acc : List Bytes}
    {r : R (List Bytes)} (h : sendLoop p rx frame n s acc = (r, s')) : ∃ tr, Sent p rx frame n s r s' tr := by
  have att : ∀ {s s1 s2 : S} {rr : ReadRes}, opWrite rx s frame = .ok s1 →
      awaitQueue (s1.w.pending.length + 1) s1 (s1.w.now + p.readTimeout) = (rr, s2) →
      ∃ ev, DataOf frame ev ∧ Tr p rx s [ev] s2 ∧ (s.w.cancelAt = none → rr ≠ .cancelled) := by
    intro s s1 s2 rr hw hq
    obtain ⟨ev, hd, hw⟩ := opWrite_ok hw
    obtain ⟨h1, _, hu⟩ := read_tr (p := p) hw hq
    exact ⟨ev, hd, h1, hu⟩
  revert h
  fun_induction sendLoop p rx frame n s acc with
  | case1 => rintro ⟨⟩; exact ⟨[], .refl _, nofun, Nat.le_refl _, nofun, fun _ _ => .inl rfl⟩
  | case2 _ _ _ _ hw =>
    rintro ⟨⟩
    refine ⟨[], .refl _, nofun, Nat.zero_le _, fun hr => ?_, nofun⟩
    cases hr; rcases opWrite_err hw with h | ⟨h, _⟩ <;> cases h
  | case3 _ _ _ _ hw _ hq _ ih =>
    intro h
    obtain ⟨ev, hd, h1, _⟩ := att hw hq
    obtain ⟨t2, i⟩ := ih h
    exact ⟨_, .cons hd h1 i.path i.shape i.le fun hr => ⟨(i.timeout hr).1, fun h0 => (i.timeout hr).2 (h1.unarmed h0)⟩⟩
  | case4 m _ _ _ hw s2 hq hm =>
    rintro ⟨⟩
    obtain ⟨ev, hd, h1, _⟩ := att hw hq
    exact ⟨_, .last hd h1 (opDisconnect_tr s2) fun _ => ⟨conn_opDisconnect s2, fun _ => by omega⟩⟩
  | case5 _ _ _ _ hw s2 hq =>
    rintro ⟨⟩
    obtain ⟨ev, hd, h1, hu⟩ := att hw hq
    exact ⟨_, .last hd h1 (opDisconnect_tr s2) fun _ => ⟨conn_opDisconnect s2, fun h0 => absurd rfl (hu h0)⟩⟩
  | case6 _ _ _ _ hw _ s2 hq | case7 _ _ _ _ hw _ s2 hq =>
    rintro ⟨⟩
    obtain ⟨ev, hd, h1, _⟩ := att hw hq
    exact ⟨_, .last hd h1 (opDisconnect_tr s2) nofun⟩
  | case8 _ _ _ _ hw _ _ hq _ _ _ hdec =>
    rintro ⟨⟩
    obtain ⟨ev, hd, h1, _⟩ := att hw hq
    exact ⟨_, .last (o := none) hd h1 (.refl _) fun hr => by
      cases hr; rcases decodeRead_err hdec with h | ⟨h, _⟩ <;> cases h⟩
  | case9 _ _ _ _ hw _ _ hq =>
    rintro ⟨⟩
    obtain ⟨ev, hd, h1, _⟩ := att hw hq
    exact ⟨_, .last (o := none) hd h1 (.refl _) nofun⟩

theorem exchange_tr {s s' : S} {frame : Bytes} {n : Nat} {r : R (List Bytes)}
    (h : exchange p rx s frame n = (r, s')) : ∃ tr, Sent p rx frame n s r s' tr := by
  have nto : ∀ {fuel s s' acc}, readAvailable fuel s acc = (r, s') → r ≠ .error .timeout := by
    intro fuel s s' acc h hr; subst hr
    rcases readAvailable_err h with h | h <;> cases h
  revert h
  fun_cases exchange p rx s frame n with
  | case1 _ _ hpre =>
    rintro ⟨⟩
    exact ⟨[], readAvailable_tr hpre, nofun, Nat.zero_le _, fun hr => absurd hr (nto hpre), nofun⟩
  | case2 _ _ hpre _ _ hl =>
    rintro ⟨⟩
    obtain ⟨tr, i⟩ := sendLoop_tr hl
    have h0 : Tr p rx s [] _ := readAvailable_tr hpre
    exact ⟨tr, h0.trans i.path, i.shape, i.le, fun hr => ⟨(i.timeout hr).1, fun hu => (i.timeout hr).2 (h0.unarmed hu)⟩, nofun⟩
  | case3 _ _ hpre _ _ hl =>
    intro h
    obtain ⟨tr, i⟩ := sendLoop_tr hl
    exact ⟨tr, ((readAvailable_tr hpre).trans i.path).trans_nil (readAvailable_tr h), i.shape, i.le,
      fun hr => absurd hr (nto h), fun _ _ => i.ok _ rfl⟩

theorem pickCred_none (stored : Option Bytes) : pickCred none none stored = stored := by simp [pickCred]

/-- authenticate first when the V3 protocol is not (or no longer) authenticated; where `LAN.send` does this
    on a dead connection, that connection is new and the version it was made with is 3 -/
theorem ensureAuth_tr {s s' : S} {r : R Unit} (hv : connAlive s = false → isV3 s = true → s.l.version = 3)
    (h : ensureAuth p rx s = (r, s')) :
    ∃ tc ta, Tr p rx s (tc ++ ta) s' ∧ (∀ e ∈ tc, ConnEv e) ∧ (∀ e ∈ ta, AuthEv s.l.token e) ∧
      (connAlive s = true → tc = []) ∧
      (r = .ok () → isV3 s = true → authenticated s = false → ∃ e ∈ ta, isAccept e = true) := by
  revert h
  fun_cases ensureAuth p rx s with
  | case1 hc =>
    intro h
    have hv3 : isV3 s = true := (Bool.and_eq_true_iff.1 hc).1
    obtain ⟨tc, ta, s2, ht, hst, h3, h4, h5, h7⟩ := lanAuthenticate_tr h
    rw [pickCred_none] at h4
    -- the version is 3 already, and the credentials stored are the stored ones: no change
    have hs : verSet s = s := by
      unfold verSet; split
      · rename_i hd
        obtain ⟨w, ⟨_, _, _, _, _, _⟩⟩ := s; cases hv (by simpa [hv3] using hd) hv3; rfl
      · rfl
    rw [hs] at ht
    have hst : Tr p rx s2 [] s' := by
      rcases hst with ⟨_, rfl⟩ | ⟨_, _, rfl⟩
      · exact .refl _
      · have := ht.creds; simp only [creds, Prod.mk.injEq] at this
        rw [pickCred_none, pickCred_none, ← this.1, ← this.2]; exact pump_tr ..
    exact ⟨tc, ta, ht.trans_nil hst, h3, h4, fun hal => h5 hal hv3, fun hr _ => h7 hr⟩
  | case2 hc =>
    rintro ⟨⟩
    exact ⟨[], [], .refl _, nofun, nofun, fun _ => rfl, fun _ h1 h2 => by simp [h1, h2] at hc⟩

theorem connAlive_none {s : S} (h : coreOf s = none) : connAlive s = false := by
  unfold connAlive
  cases hc : s.l.conn with
  | none => rfl
  | some c => simp [coreOf, hc] at h

theorem connAlive_isSome {s : S} (h : connAlive s = true) : (coreOf s).isSome = true := by
  unfold connAlive at h
  cases hc : s.l.conn with
  | none => rw [hc] at h; cases h
  | some c => simp [coreOf, hc]

/-- what `LAN.send` has done when it ends in `(r, s')`: a path `tc ++ ta ++ te` — optional reconnect, optional
    authentication with the stored token, then the exchange (`Sent`) if it got that far -/
structure LanSent (p : Params) (rx : Reactions) (frame : Bytes) (n : Nat) (s : S) (r : R (List Bytes)) (s' : S)
    (tc ta te : List Ev) : Prop where
  path : Tr p rx s (tc ++ ta ++ te) s'
  conn : ∀ e ∈ tc, ConnEv e
  auth : ∀ e ∈ ta, AuthEv s.l.token e
  xchg : ∀ e ∈ te, XchgEv frame e
  le : nData te ≤ n
  alive : connAlive s = true → tc = []
  accept : te ≠ [] → connAlive s = true → isV3 s = true → authenticated s = false → ∃ e ∈ ta, isAccept e = true
  timeout : r = .error .timeout → te ≠ [] → s'.l.conn = none ∧ (s.w.cancelAt = none → nData te = n)
  ok : ∀ got, r = .ok got → n = 0 ∨ 1 ≤ nData te

theorem sendOn_tr {s s' : S} {frame : Bytes} {n : Nat} {r : R (List Bytes)}
    (hv : connAlive s = false → isV3 s = true → s.l.version = 3) (h : sendOn p rx s frame n = (r, s')) :
    ∃ tc ta te, LanSent p rx frame n s r s' tc ta te := by
  unfold sendOn at h
  split at h
  · rename_i ha
    cases h
    obtain ⟨tc, ta, ht, g3, g4, g5, _⟩ := ensureAuth_tr hv ha
    exact ⟨tc, ta, [], ht.trans (.refl _), g3, g4, nofun, Nat.zero_le _, g5, fun h => absurd rfl h,
      fun _ h => absurd rfl h, nofun⟩
  · rename_i ha
    obtain ⟨tc, ta, ht, g3, g4, g5, g6⟩ := ensureAuth_tr hv ha
    obtain ⟨te, i⟩ := exchange_tr h
    exact ⟨tc, ta, te, ht.trans i.path, g3, g4, i.shape, i.le, g5, fun _ _ => g6 rfl,
      fun hr _ => ⟨(i.timeout hr).1, fun h0 => (i.timeout hr).2 (ht.unarmed h0)⟩, i.ok⟩

/-- `LAN.send`; on a dead connection the first thing it does is to close it -/
theorem lanSend_tr {s s' : S} {frame : Bytes} {n : Nat} {r : R (List Bytes)}
    (h : lanSend p rx s frame n = (r, s')) :
    ∃ tc ta te, LanSent p rx frame n s r s' tc ta te ∧
      (connAlive s = false → ∀ c, coreOf s = some c → ∃ tc', tc = .closed c.cid :: tc') := by
  rw [lanSend_eq] at h
  split at h
  · rename_i hal
    have hal : connAlive s = false := by simpa using hal
    have hnal : ∀ {α : Prop}, connAlive s = true → α := fun h => by simp [hal] at h
    split at h
    · rename_i hco
      cases h
      obtain ⟨tc, htc, hs, hfirst, _⟩ := reconnect_tr hco
      exact ⟨tc, [], [], ⟨(htc.trans (.refl _)).trans (.refl _), hs, nofun, nofun, Nat.zero_le _, hnal,
        fun h => absurd rfl h, fun _ h => absurd rfl h, nofun⟩, fun _ => hfirst⟩
    · rename_i s1 hco
      obtain ⟨tc, htc, hs, hfirst, hs1⟩ := reconnect_tr hco
      have hs1 := hs1 rfl
      obtain ⟨tc2, ta, te, i⟩ := sendOn_tr (fun _ h => by rw [hs1, isV3_opConnected] at h; simpa [hs1] using h) h
      refine ⟨tc ++ tc2, ta, te, ⟨by simpa using htc.trans i.path, List.forall_mem_append.2 ⟨hs, i.conn⟩, ?_, i.xchg, i.le,
        hnal, fun _ => hnal, fun hr hne => ⟨(i.timeout hr hne).1, fun h0 => (i.timeout hr hne).2 (htc.unarmed h0)⟩, i.ok⟩,
        fun _ c hc => ?_⟩
      · have := i.auth; rw [hs1] at this; simpa [dropConnect] using this
      · obtain ⟨tc', rfl⟩ := hfirst c hc; exact ⟨_, rfl⟩
  · rename_i hal
    have hal : connAlive s = true := by simpa using hal
    obtain ⟨tc, ta, te, i⟩ := sendOn_tr (fun h => by simp [hal] at h) h
    exact ⟨tc, ta, te, i, fun h => by simp [hal] at h⟩

theorem creds_lanSend {s s' : S} {frame : Bytes} {n : Nat} {r : R (List Bytes)}
    (h : lanSend p rx s frame n = (r, s')) : creds s' = creds s :=
  have ⟨_, _, _, i, _⟩ := lanSend_tr h; i.path.creds

/-! ### histories -/

theorem outcomeOfSend_snd (x : R (List Bytes) × S) : (outcomeOfSend x).2 = x.2 := by
  obtain ⟨r, s⟩ := x; cases r <;> rfl

theorem outcomeOfAuth_snd (x : R Unit × S) : (outcomeOfAuth x).2 = x.2 := by
  obtain ⟨r, s⟩ := x; cases r <;> rfl

theorem outcomeDisarm_snd (t : Nat) (x : Outcome × S) : (outcomeDisarm t x).2 = pump (disarmCancel x.2) t := rfl

theorem step_tr (p : Params) (rx : Reactions) (s : S) (op : Op) : ∃ tr, A.Run (abs s) tr (abs (step p rx s op).2) := by
  have hs : ∀ s f n, ∃ tr, A.Run (abs s) tr (abs (lanSend p rx s f n).2) := fun s f n =>
    have ⟨_, _, _, i, _⟩ := lanSend_tr (p := p) (rx := rx) (s := s) (frame := f) (n := n) rfl; ⟨_, i.path.run⟩
  have ha : ∀ s t k n, ∃ tr, A.Run (abs s) tr (abs (lanAuthenticate p rx s t k n).2) := fun s t k n =>
    have ⟨_, _, _, i⟩ := lanAuthenticate_tr (p := p) (rx := rx) (s := s) (token := t) (key := k) (n := n) rfl
    ⟨_, i.run⟩
  -- the caller's cancellation is armed before and disarmed after: soft steps
  have hc : ∀ {s1 : S} {tr ms t}, A.Run (abs (armCancel s ms)) tr (abs s1) → A.Run (abs s) tr (abs (pump (disarmCancel s1) t)) :=
    fun h => h.trans_nil (pump_tr (p := p) (rx := rx) (disarmCancel _) _).run
  cases op with
  | send f => rw [step, outcomeOfSend_snd]; exact hs ..
  | sendN f n => rw [step, outcomeOfSend_snd]; exact hs ..
  | authenticate t k => rw [step, outcomeOfAuth_snd]; exact ha ..
  | advance ms => exact ⟨[], (pump_tr (p := p) (rx := rx) ..).run⟩
  | setMaxLifetime m => exact ⟨[], .refl _⟩
  | sendCancelled f ms => rw [step, outcomeDisarm_snd, outcomeOfSend_snd]; exact (hs ..).imp fun _ => hc
  | authCancelled t k ms => rw [step, outcomeDisarm_snd, outcomeOfAuth_snd]; exact (ha ..).imp fun _ => hc

theorem run_inv {P : S → Prop} {Q : Outcome → Prop} (p : Params) (rx : Reactions) (ops : List Op)
    (hstep : ∀ s, ∀ op ∈ ops, P s → Q (step p rx s op).1 ∧ P (step p rx s op).2) (s : S) (hs : P s) :
    (∀ o ∈ (run p rx s ops).1, Q o) ∧ P (run p rx s ops).2 := by
  induction ops generalizing s with
  | nil => exact ⟨nofun, hs⟩
  | cons op t ih =>
    obtain ⟨h1, h2⟩ := hstep s op List.mem_cons_self hs
    obtain ⟨i1, i2⟩ := ih (fun s o ho => hstep s o (List.mem_cons_of_mem _ ho)) _ h2
    exact ⟨List.forall_mem_cons.2 ⟨h1, i1⟩, i2⟩

/-- **refinement**: every history of the Session model is a run of the abstract automaton -/
theorem run_tr (p : Params) (rx : Reactions) (ops : List Op) (s : S) :
    ∃ tr, A.Run (abs s) tr (abs (run p rx s ops).2) :=
  (run_inv (P := fun x => ∃ tr, A.Run (abs s) tr (abs x)) (Q := fun _ => True) p rx ops
    (fun s1 op _ ⟨tr, h⟩ => ⟨trivial, have ⟨t2, h2⟩ := step_tr p rx s1 op; ⟨tr ++ t2, h.trans h2⟩⟩) s ⟨[], .refl _⟩).2

end Msmart.Lemmas.Sess
