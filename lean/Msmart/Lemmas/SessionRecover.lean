/-
  Successful exchanges with a promptly responding peer, step by step: an answered handshake attempt
  leaves an authenticated, idle session; an exchange from an idle session returns the peer's answer.
  Used by the recovery theorems of C08.
-/
import Msmart.Lemmas.SessionRetry

namespace Msmart.Lemmas.Sess
open Msmart.Model Msmart.Model.Session

theorem pump_quiet {s : S} (t : Nat) (h : s.w.pending = []) : pump s t = setNow s t := by
  unfold pump; rw [h]; rfl

/-- an exchange from an idle session whose peer answers the first transmission promptly with exactly one
    decodable item returns exactly that response, after one transmission -/
theorem exchange_answered {p : Params} {rx : Reactions} {s : S} {c : Conn} (frame : Bytes) (n : Nat) (h : Ready s c)
    {d : Nat} {b pkt f : Bytes} (hrx : rx c.core.cid c.core.nWrites = [(d, .data b)]) (hd : d ≤ p.readTimeout)
    (hseg : segQueue c.core.v3 c.buffer b = [pkt]) (hdec : decodeWith c.core.v3 c.core.localKey pkt = .ok f) :
    ∃ s', exchange p rx s frame (n + 1) = (.ok [f], s') ∧ nData (evsOf s') = nData (evsOf s) + 1 := by
  obtain ⟨s2, c2, hloop, hn2, hc2, hq2⟩ := sendLoop_answered (p := p) frame h hrx hd hseg hdec
  refine ⟨s2, ?_, hn2⟩
  simp [exchange, readAvailable, queueHead, h.conn, h.queue, hloop, hc2, hq2]

/-- an exchange on a ready connection that needs no handshake, answered at the first transmission -/
theorem sendOn_ready {p : Params} {rx : Reactions} {s : S} {c : Conn} (frame : Bytes) (n : Nat)
    (hr : Ready s c) (hauth : isV3 s = true → authenticated s = true)
    {d : Nat} {b pkt f : Bytes} (hrx : rx c.core.cid c.core.nWrites = [(d, .data b)]) (hd : d ≤ p.readTimeout)
    (hseg : segQueue c.core.v3 c.buffer b = [pkt]) (hdec : decodeWith c.core.v3 c.core.localKey pkt = .ok f) :
    ∃ s', sendOn p rx s frame (n + 1) = (.ok [f], s') ∧ nData (evsOf s') = nData (evsOf s) + 1 := by
  have hea : ensureAuth p rx s = (.ok (), s) := by
    unfold ensureAuth
    cases hv : isV3 s <;> simp [hv, hauth]
  unfold sendOn
  rw [hea]
  exact exchange_answered frame n hr hrx hd hseg hdec

/-- an answered handshake attempt on an open, idle V3 connection: the key is accepted, the session is
    idle again (queue and buffer empty, nothing pending) and authenticated -/
theorem protoAuthenticate_answered {p : Params} {rx : Reactions} {s : S} {c : Conn} {tok key : Bytes}
    (hc : s.l.conn = some c) (hcl : c.closing = false) (hv : c.core.v3 = true) (hquiet : s.w.pending = [])
    (hnc : s.w.cancelAt = none) (hbuf : c.buffer = []) (htok : tok.isEmpty = false ∧ tok.length < 65536) (hkey : key.isEmpty = false)
    {d : Nat} {b reply payload lk : Bytes} (hrx : rx c.core.cid c.core.nWrites = [(d, .data b)])
    (hd : d ≤ p.readTimeout) (hparse : parseLoop b = ([reply], []))
    (hproc : processPacket none reply = .ok payload) (hlk : getLocalKey key payload = .ok lk) :
    ∃ s' c', protoAuthenticate p rx s (some tok) (some key) = (.ok (), s') ∧ Ready s' c' ∧
      c'.core = { bump c.core with localKey := some lk } ∧ c'.buffer = [] ∧
      c'.keyExpiry = some (s'.w.now + p.authExpiry) ∧
      evsOf s' = evsOf s ++ [.forget c.core.cid, .wrHS c.core.cid c.core.packetId tok, .accept c.core.cid lk] := by
  -- the connection and the state when the handshake request has been written
  let c1 : Conn := { c with queue := [], core := bump { c.core with localKey := none }, keyExpiry := none }
  let s1 : S :=
    { w := { s.w with pending := [⟨s.w.now + d, c.core.cid, .data b⟩],
                      log := s.w.log ++ [(s.w.now, .forget c.core.cid), (s.w.now, .wrHS c.core.cid c.core.packetId tok)] },
      l := { s.l with conn := some c1 } }
  have hw : opWriteHS rx (opForget (flush s)) tok = .ok s1 := by
    have : ¬ 65536 ≤ tok.length := Nat.not_le_of_lt htok.2
    simp [opWriteHS, opForget, flush, softConn, hc, logEv, this, hcl, react, setCore, hquiet, hrx, s1, c1]
  have happ : applyEvent (.data b) c1 = { c1 with queue := [reply] } := by
    rw [applyEvent_open _ (show c1.closing = false from hcl)]
    simp [c1, bump, segQueue, hv, hbuf, hparse]
  have ha := awaitQueue_single (s := s1) (c := c1) (t := s.w.now + d) (d := s1.w.now + p.readTimeout) (ev := .data b)
    rfl rfl rfl (Nat.add_le_add_left hd _) hnc
  rw [happ] at ha
  let c2 : Conn := { c with queue := [], core := { bump c.core with localKey := some lk },
                            keyExpiry := some (max s.w.now (s.w.now + d) + p.authExpiry) }
  refine ⟨{ w := { s1.w with now := max s.w.now (s.w.now + d), pending := [],
                             log := s1.w.log ++ [(max s.w.now (s.w.now + d), .accept c.core.cid lk)] },
            l := { s.l with conn := some c2 } }, c2, ?_, ⟨rfl, hcl, rfl, rfl, fun _ => ⟨lk, rfl⟩, hnc⟩, rfl, hbuf, rfl, ?_⟩
  · simp only [protoAuthenticate, htok.1, hkey, Bool.false_eq_true, or_self, ↓reduceIte, hw, ha, acceptReply, curKey,
      show c1.core.localKey = none from rfl, hproc, hlk]
    rfl
  · simp [evsOf, s1]

/-- **re-authentication on the same connection**: the connection is alive and idle but the protocol object is
    not authenticated; the peer answers the handshake request and then the data request promptly: one
    handshake, one transmission, the peer's response -/
theorem sendOn_reauth {p : Params} {rx : Reactions} {s : S} {c : Conn} (frame : Bytes) (n : Nat) {tok key : Bytes}
    (hc : s.l.conn = some c) (hcl : c.closing = false) (hv : c.core.v3 = true)
    (hal : connAlive s = true) (hna : authenticated s = false) (hquiet : s.w.pending = [])
    (hnc : s.w.cancelAt = none) (hbuf : c.buffer = [])
    (htok : s.l.token = some tok) (hkey : s.l.key = some key)
    (htok' : tok.isEmpty = false ∧ tok.length < 65536) (hkey' : key.isEmpty = false)
    {d0 : Nat} {b0 reply payload lk : Bytes} (hrx0 : rx c.core.cid c.core.nWrites = [(d0, .data b0)])
    (hd0 : d0 ≤ p.readTimeout) (hparse0 : parseLoop b0 = ([reply], [])) (hproc : processPacket none reply = .ok payload)
    (hlk : getLocalKey key payload = .ok lk)
    {d1 : Nat} {b1 pkt f : Bytes} (hrx1 : rx c.core.cid (c.core.nWrites + 1) = [(d1, .data b1)]) (hd1 : d1 ≤ p.readTimeout)
    (hparse1 : parseLoop b1 = ([pkt], [])) (hdec : decodeWith true (some lk) pkt = .ok f) :
    ∃ s', sendOn p rx s frame (n + 1) = (.ok [f], s') ∧ nData (evsOf s') = nData (evsOf s) + 1 ∧
      ∃ tr, evsOf s' = evsOf s ++ tr ∧ .accept c.core.cid lk ∈ tr := by
  have hv1 : isV3 s = true := by simp [isV3, hc, hv]
  obtain ⟨s4, c4, hpa, hr4, hcore4, hbuf4, hke4, hev4⟩ :=
    protoAuthenticate_answered (p := p) hc hcl hv hquiet hnc hbuf htok' hkey' hrx0 hd0 hparse0 hproc hlk
  -- the handshake succeeded at the first attempt; credentials stored, the post-authentication sleep on a quiet network
  have hea : ensureAuth p rx s = (.ok (), setNow (storeCreds s4 (some tok) (some key)) (s4.w.now + p.authSleep)) := by
    have hauth4 : authenticated s4 = true := by simp [authenticated, hr4.conn, hcore4, hke4]
    have hloop : authLoop p rx (some tok) (some key) (2 + 1) s = (.ok (), s4) := by rw [authLoop, hpa]
    simp [ensureAuth, hv1, hna, lanAuthenticate, hal, pickCred_none, htok, hkey, show Generated.lanRetries = 2 + 1 from rfl,
      hloop, finishAuth, hauth4, pump_quiet _ (show (storeCreds s4 (some tok) (some key)).w.pending = [] from hr4.quiet)]
  obtain ⟨s6, hex, hn6⟩ := exchange_answered (p := p) (rx := rx)
    (s := setNow (storeCreds s4 (some tok) (some key)) (s4.w.now + p.authSleep)) (c := c4) frame n
    ⟨hr4.conn, hr4.open_, hr4.queue, hr4.quiet, hr4.key, hr4.unarmed⟩ (d := d1) (b := b1) (pkt := pkt) (f := f)
    (by simpa [hcore4, bump] using hrx1) hd1 (by simp [segQueue, hcore4, bump, hv, hbuf4, hparse1])
    (by simpa [hcore4, bump, hv] using hdec)
  obtain ⟨tr6, htr6, _⟩ := exchange_tr hex
  have hev6 : evsOf s6 = evsOf s ++ ([.forget c.core.cid, .wrHS c.core.cid c.core.packetId tok, .accept c.core.cid lk] ++ tr6) := by
    rw [← List.append_assoc, ← hev4]; exact htr6.evs
  refine ⟨s6, by rw [sendOn, hea]; exact hex, ?_, _, hev6, by simp⟩
  rw [hn6]
  show nData (evsOf s4) + 1 = _
  rw [hev4, nData_append]
  rfl

/-- a successful reconnect: the old connection (if any) is closed, a fresh one of the configured protocol class opened -/
theorem reconnect {p : Params} {s : S} {cs : List ConnOutcome} (hconn : s.w.connects = .ok :: cs) :
    ∃ s1 tr, opConnect p (opDisconnect s) = (.ok (), s1) ∧ evsOf s1 = evsOf s ++ tr ∧ nData tr = 0 ∧ s1 =
      { w := { s.w with connects := cs, nConn := s.w.nConn + 1,
                        log := s.w.log ++ (s.l.conn.map fun c => (s.w.now, Ev.closed c.core.cid)).toList ++
                                 [(s.w.now, .connect (s.w.nConn + 1) (s.l.version = 3))] },
        l := { s.l with conn := some { core := { cid := s.w.nConn + 1, v3 := s.l.version = 3 } },
                        connExpiry := newExpiry s } } := by
  refine ⟨_, (s.l.conn.map fun c => Ev.closed c.core.cid).toList ++ [.connect (s.w.nConn + 1) (s.l.version = 3)],
    by simp [opConnect, hconn]; rfl, ?_, ?_, by simp [opConnected, logEv, dropConnect, newExpiry, hconn]⟩
  all_goals cases hc : s.l.conn <;> simp [opConnected, logEv, dropConnect, evsOf, nData, isData, hc]

/-- the expiry a new connection gets is in the future (or absent): no stale expiry is inherited -/
def FreshExpiryOk (s : S) : Prop := ∀ e, newExpiry s = some e → s.w.now ≤ e

theorem freshExpiryOk_of (s : S) (h : s.l.connExpiry = none ∨ ∃ m, s.l.maxLifetime = some m ∧ m ≠ 0) : FreshExpiryOk s := by
  intro e he
  unfold newExpiry at he
  rcases h with h | ⟨m, hm, hm0⟩
  · rw [h] at he
    split at he
    · split at he
      · cases he
      · cases he; omega
    · cases he
  · rw [hm] at he; simp only at he
    rw [if_neg hm0] at he; cases he; omega

end Msmart.Lemmas.Sess
