/-
  Containment lemmas: which errors each response parser can return.
-/
import Msmart.Model.Device
import Msmart.Lemmas.Base

namespace Msmart.Lemmas
open Msmart.Model

abbrev Tri {α} (r : R α) : Prop :=
  ErrIn (fun e => e = .invalidFrame ∨ e = .invalidResponse ∨ e = indexError) r

variable {α β : Type}

theorem OnlyIdx.tri {r : R α} (h : OnlyIdx r) : Tri r := h.mono fun _ he => .inr (.inr he)

/-- a `do` block of `Py.idx` reads ending in `pure` -/
macro "only_idx" : tactic =>
  `(tactic| repeat (first
      | exact ErrIn.ok
      | exact idx_onlyIdx _ _
      | (apply ErrIn.bind (idx_onlyIdx _ _); intro _)))

theorem parseState_onlyIdx (p : Bytes) : OnlyIdx (parseState p) := by
  unfold parseState; only_idx

theorem parseEnergy_onlyIdx (p : Bytes) : OnlyIdx (parseEnergy p) := by
  unfold parseEnergy; only_idx

theorem parseHumidity_onlyIdx (p : Bytes) : OnlyIdx (parseHumidity p) := by
  unfold parseHumidity; only_idx

theorem capTempRecord_err {d caps size e} (h : capTempRecord d caps size = .err e) : e = indexError := by
  revert h
  fun_cases capTempRecord d caps size <;> rintro ⟨⟩ <;> rfl

theorem capStep_err {d caps e} (h : capStep d caps = .err e) : e = indexError := by
  revert h
  fun_cases capStep d caps
  case case7 => exact capTempRecord_err
  all_goals rintro ⟨⟩ <;> rfl

theorem parseCapsLoop_onlyIdx (n : Nat) (d : CapDict) (caps : Bytes) :
    OnlyIdx (parseCapsLoop n d caps) := by
  fun_induction parseCapsLoop n d caps with
  | case1 | case2 => exact .ok
  | case3 _ _ _ _ _ _ ih => exact ih
  | case4 _ _ _ _ h => exact .error (capStep_err h)

theorem parseCaps_onlyIdx (p : Bytes) : OnlyIdx (parseCaps p) :=
  .bind (idx_onlyIdx _ _) fun _ => .bind (parseCapsLoop_onlyIdx _ _ _) fun _ => .ok

theorem propStep_err {d props e} (h : propStep d props = .err e) : e = indexError := by
  revert h
  fun_cases propStep d props <;> rintro ⟨⟩ <;> rfl

theorem parsePropsLoop_onlyIdx (n : Nat) (d : PropDict) (props : Bytes) :
    OnlyIdx (parsePropsLoop n d props) := by
  fun_induction parsePropsLoop n d props with
  | case1 | case2 => exact .ok
  | case3 _ _ _ _ _ _ ih => exact ih
  | case4 _ _ _ _ h => exact .error (propStep_err h)

theorem parseProps_onlyIdx (p : Bytes) : OnlyIdx (parseProps p) :=
  .bind (idx_onlyIdx _ _) fun _ => parsePropsLoop_onlyIdx _ _ _

theorem frameValidate_tri (f : Bytes) : Tri (frameValidate f) := by
  unfold frameValidate
  split
  · exact .error (.inr (.inr rfl))
  · split
    · exact .ok
    · exact .error (.inl rfl)

theorem respValidate_tri (f : Bytes) : Tri (respValidate f) := by
  unfold respValidate
  split
  · exact .error (.inr (.inr rfl))
  · split
    · exact .error (.inr (.inl rfl))
    · exact .ok

theorem respClass_onlyIdx (f : Bytes) : OnlyIdx (respClass f) :=
  .bind (idx_onlyIdx _ _) fun _ => .bind (idx_onlyIdx _ _) fun _ =>
    .ite .ok <| .ite .ok <| .ite .ok <|
      .ite (.bind (idx_onlyIdx _ _) fun _ => .ite .ok <| .ite .ok .ok) .ok

theorem buildResp_onlyIdx (cls : RespClass) (id : UInt8) (p : Bytes) : OnlyIdx (buildResp cls id p) := by
  cases cls
  · exact .ok
  · exact .map _ (parseState_onlyIdx _)
  · exact .map _ (parseCaps_onlyIdx _)
  · exact .map _ (parseProps_onlyIdx _)
  · exact .map _ (parseEnergy_onlyIdx _)
  · exact .map _ (parseHumidity_onlyIdx _)

theorem validateUnlessProps_tri (cls : RespClass) (f : Bytes) : Tri (validateUnlessProps cls f) :=
  .ite (respValidate_tri _) .ok

/-- the checks `Response._construct` makes before it calls the response class -/
theorem constructDispatch_tri (f : Bytes) : Tri (constructDispatch f) :=
  .bind (frameValidate_tri _) fun _ => .bind (respClass_onlyIdx _).tri fun _ =>
    .bind (validateUnlessProps_tri _ _) fun _ => .ok

theorem constructInner_tri (f : Bytes) : Tri (constructInner f) :=
  .bind (frameValidate_tri _) fun _ => .bind (respClass_onlyIdx _).tri fun _ =>
    .bind (validateUnlessProps_tri _ _) fun _ => .bind (idx_onlyIdx _ _).tri fun _ =>
      (buildResp_onlyIdx _ _ _).tri

end Msmart.Lemmas
