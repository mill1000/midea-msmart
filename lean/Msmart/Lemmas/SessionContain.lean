/-
  Containment for the Session model: the receive queue of a V3 connection only ever holds packets
  cut by the reassembly loop (at least 8 bytes; the invariant `QOk` keeps the 6 that `_process_packet`
  reads), so `_process_packet` cannot hit an IndexError; with well-formed credentials every operation
  of the `LAN` object ends in frames, a protocol / authentication error or a timeout — never another
  exception class.
-/
import Msmart.Lemmas.SessionTrace

namespace Msmart.Lemmas.Sess
open Msmart.Model Msmart.Model.Session

theorem parseLoop_len (b : Bytes) : ∀ p ∈ (parseLoop b).1, 8 ≤ p.length := by
  induction b using parseLoop.induct with
  | case1 b h => rw [parseLoop_none h]; nofun
  | case2 b p r h _ _ _ ih => rw [parseLoop_some h]; exact List.forall_mem_cons.2 ⟨reasmStep_len h, ih⟩

/-! ### the queue invariant -/

def ConnOk (c : Conn) : Prop := c.core.v3 = true → ∀ pkt ∈ c.queue, 6 ≤ pkt.length
def QOk (s : S) : Prop := ∀ c, s.l.conn = some c → ConnOk c

theorem connOk_applyEvent {c : Conn} (e : PeerEvent) (h : ConnOk c) : ConnOk (applyEvent e c) := by
  unfold applyEvent
  split
  · exact h
  · split
    · exact h
    · split
      · intro _ pkt hp
        rcases List.mem_append.1 hp with hp | hp
        · exact h ‹_› pkt hp
        · exact Nat.le_trans (by decide) (parseLoop_len _ pkt hp)
      · exact fun hv => absurd hv ‹_›

theorem qok_of_abs_conn {s s' : S} (h : QOk s) (he : s'.l.conn = s.l.conn) : QOk s' := by
  intro c hc; rw [he] at hc; exact h c hc

theorem qok_softConn {s : S} {f : Conn → Conn} (h : QOk s)
    (hf : ∀ c, ConnOk c → c.core.v3 = true → ∀ pkt ∈ (f c).queue, 6 ≤ pkt.length) : QOk (softConn s f) := by
  unfold softConn
  split
  · rename_i c hc
    intro c' hc'
    cases hc'
    exact hf c (h c hc)
  · exact h

theorem qok_deliverDue {s : S} (e : Timed) (h : QOk s) : QOk (deliverDue s e) := by
  refine qok_softConn (s := { s with w := _ }) h ?_
  intro c hc hv pkt hp
  split at hp
  · exact connOk_applyEvent e.ev hc (by rw [applyEvent_core]; exact hv) pkt hp
  · exact hc hv pkt hp

theorem qok_popQueue {s : S} (h : QOk s) : QOk (popQueue s) :=
  qok_softConn h fun _ hc hv pkt hp => hc hv pkt (List.mem_of_mem_drop hp)

theorem qok_none {s : S} (h : s.l.conn = none) : QOk s := by intro c hc; rw [h] at hc; cases hc

theorem qok_opConnected (s : S) : QOk (opConnected s) := by
  intro c hc; cases hc; exact fun _ _ hp => nomatch hp

theorem Ticks.qok {s s' : S} (h : Ticks s s') (hq : QOk s) : QOk s' := by
  refine h.inv ?_ hq
  intro a b ht ha
  cases ht with
  | deliver => exact qok_deliverDue _ ha
  | pop => exact qok_popQueue ha
  | _ => exact qok_of_abs_conn ha rfl

theorem Wrote.qok {rx : Reactions} {s s' : S} {e : Ev} (h : Wrote rx s e s') (hq : QOk s) : QOk s' := by
  obtain ⟨hc, _, hw⟩ := h
  rename_i c _ _
  intro c' hc' hv
  cases hc'
  exact hq c hc (by rw [← (Keep.write hw).spec.2.1]; exact hv)

variable {p : Params} {rx : Reactions}

theorem Tr.qok {s s' : S} {tr : List Ev} (h : Tr p rx s tr s') (hq : QOk s) : QOk s' := by
  refine h.inv ?_ ?_ hq
  · intro a b hs ha
    cases hs with
    | pump => exact (pump_ticks ..).qok ha
    | pop => exact qok_popQueue ha
    | flush => exact qok_softConn ha fun _ _ _ _ hp => nomatch hp
    | dropConnect => exact qok_of_abs_conn ha rfl
  · intro a e b hc ha
    cases hc with
    | read hw hr => exact (awaitQueue_ticks hr).qok (hw.qok ha)
    | accept lk exp hc => rename_i c; simp only [opAccept, hc]; intro c' hc'; cases hc'; exact ha c hc
    | forget hc => rename_i c; simp only [opForget, hc]; intro c' hc'; cases hc'; exact ha c hc
    | closed => exact qok_none (conn_opDisconnect _)
    | connect => exact qok_opConnected _

theorem lanAuthenticate_qok {s s' : S} {token key : Option Bytes} {n : Nat} {r : R Unit} (hq : QOk s)
    (h : lanAuthenticate p rx s token key n = (r, s')) : QOk s' :=
  lanAuthenticate_inv (fun h => qok_of_abs_conn h rfl) Tr.qok
    (fun _ _ _ h => (pump_ticks ..).qok (qok_of_abs_conn h rfl)) h hq

/-! ### facts that only depend on the core -/

theorem isV3_eq (s : S) : isV3 s = ((coreOf s).map (·.v3)).getD false := by
  unfold isV3 coreOf; cases s.l.conn <;> rfl

theorem isV3_of_core {s s' : S} (h : coreOf s' = coreOf s) : isV3 s' = isV3 s := by
  rw [isV3_eq, isV3_eq, h]

theorem authenticated_isSome {s : S} (h : authenticated s = true) : (coreOf s).isSome = true := by
  unfold authenticated at h
  cases hc : s.l.conn with
  | none => rw [hc] at h; cases h
  | some c => simp [coreOf, hc]

theorem tr_keeps_conn {s s' : S} {tr : List Ev} (hr : Tr p rx s tr s')
    (hn : ∀ e ∈ tr, isClosed e = false ∧ isConnect e = false) (hs : (coreOf s).isSome = true) :
    (coreOf s').isSome = true ∧ isV3 s' = isV3 s := by
  obtain ⟨c, hc⟩ := Option.isSome_iff_exists.1 hs
  obtain ⟨_, h2, h3⟩ := run_on_conn hr.run (fun e he => (hn e he).2) c hc
  have h3 : (coreOf s').isSome = true := h3 fun e he => (hn e he).1
  obtain ⟨c', hc'⟩ := Option.isSome_iff_exists.1 h3
  exact ⟨h3, by rw [isV3_eq, isV3_eq, hc', hc]; simp [(h2 c' hc').2]⟩

/-! ### containment, function by function -/

/-- the allowed failure classes of the transport layer -/
def Allowed (e : Err) : Prop := e = .protocol ∨ e = .auth ∨ e = .timeout

theorem decodeRead_protocol {s : S} {raw : Bytes} {e : Err} (hl : isV3 s = true → 6 ≤ raw.length)
    (h : decodeRead s raw = .error e) : e = .protocol :=
  (decodeRead_err h).resolve_right fun ⟨_, hv, hlt⟩ => Nat.not_le_of_lt hlt (hl hv)

theorem queueHead_len {s : S} {raw : Bytes} (hq : QOk s) (h : queueHead s = some raw) (hv : isV3 s = true) :
    6 ≤ raw.length := by
  unfold queueHead at h
  cases hc : s.l.conn with
  | none => rw [hc] at h; cases h
  | some c =>
    rw [hc] at h
    exact hq c hc (by simpa [isV3, hc] using hv) raw (List.mem_of_mem_head? h)

/-- what a read on a V3 connection returns was cut by the reassembly -/
theorem awaitQueue_len {fuel : Nat} {s s' : S} {d : Nat} {raw : Bytes} (hq : QOk s) (hv : isV3 s = true)
    (h : awaitQueue fuel s d = (.packet raw, s')) : 6 ≤ raw.length := by
  revert h
  fun_induction awaitQueue fuel s d with
  | case2 _ _ _ _ hh => rintro ⟨⟩; exact queueHead_len hq hh hv
  | case6 _ s _ _ e _ _ ih =>
    exact ih (qok_deliverDue _ hq) (by rw [isV3_of_core (Ticks.core (.ofSoft (.deliver s e)))]; exact hv)
  | _ => nofun

theorem readAvailable_contain {fuel : Nat} {s s' : S} {acc : List Bytes} {e : Err} (hq : QOk s)
    (h : readAvailable fuel s acc = (.error e, s')) : e = .protocol := by
  revert h
  fun_induction readAvailable fuel s acc with
  | case1 | case2 => nofun
  | case3 _ _ _ _ hh _ hd => rintro ⟨⟩; exact decodeRead_protocol (queueHead_len hq hh) hd
  | case4 _ _ _ _ _ _ _ ih => exact ih (qok_popQueue hq)

theorem opWriteHS_contain {s : S} {tok : Bytes} {e : Err} (hs : (coreOf s).isSome = true)
    (ht : tok.length < 65536) (h : opWriteHS rx s tok = .error e) : e = .protocol := by
  revert h
  fun_cases opWriteHS rx s tok <;> rintro ⟨⟩
  · rename_i hc; simp [coreOf, hc] at hs
  · omega
  · rfl

theorem read_contain {s s1 s2 : S} {f : Bytes} {rr : ReadRes} (hq : QOk s) (hw : opWrite rx s f = .ok s1)
    (ha : awaitQueue (s1.w.pending.length + 1) s1 (s1.w.now + p.readTimeout) = (rr, s2)) :
    QOk s2 ∧ (coreOf s2).isSome = true ∧ ∀ raw e, rr = .packet raw → decodeRead s2 raw = .error e → e = .protocol := by
  obtain ⟨_, _, hw⟩ := opWrite_ok hw
  obtain ⟨ht, hc, _⟩ := read_tr hw ha
  refine ⟨ht.qok hq, hc, ?_⟩
  rintro raw e rfl hd
  refine decodeRead_protocol (fun hv => awaitQueue_len (hw.qok hq) ?_ ha) hd
  rw [← isV3_of_core (awaitQueue_ticks ha).core]; exact hv

theorem authenticated_opAccept {s : S} (lk : Bytes) (d : Nat) (hs : (coreOf s).isSome = true) :
    authenticated (opAccept s lk (s.w.now + d)) = true := by
  cases hc : s.l.conn with
  | none => simp [coreOf, hc] at hs
  | some c => simp [opAccept, hc, authenticated, logEv]

theorem acceptReply_contain {s s' : S} {key raw : Bytes} {r : R Unit} (hk : key.length = 32)
    (hl : 6 ≤ raw.length) (hs : (coreOf s).isSome = true) (h : acceptReply p s key raw = (r, s')) :
    ErrIn (· = .auth) r ∧ (r = .ok () → authenticated s' = true) := by
  revert h
  fun_cases acceptReply p s key raw <;> rintro ⟨⟩
  · exact ⟨.error rfl, nofun⟩
  · rename_i hne hp; exact absurd (processPacket_err hl hp) hne
  · rename_i hg; exact ⟨.error (getLocalKey_err hk hg), nofun⟩
  · exact ⟨.ok, fun _ => authenticated_opAccept _ _ hs⟩

/-- what the authentication procedures need of the state they start in, and keep while no close / connect
    happens -/
structure AuthPre (s : S) : Prop where
  qok : QOk s
  conn : (coreOf s).isSome = true
  v3 : isV3 s = true
  unarmed : s.w.cancelAt = none

theorem AuthPre.tr {s s' : S} {tr : List Ev} (h : AuthPre s) (ht : Tr p rx s tr s')
    (hn : ∀ e ∈ tr, isClosed e = false ∧ isConnect e = false) : AuthPre s' :=
  ⟨ht.qok h.qok, (tr_keeps_conn ht hn h.conn).1, (tr_keeps_conn ht hn h.conn).2.trans h.v3, ht.unarmed h.unarmed⟩

theorem AuthPre.wrote {s s' : S} {e : Ev} (h : AuthPre s) (hw : Wrote rx s e s') : AuthPre s' := by
  refine ⟨hw.qok h.qok, ?_, ?_, ?_⟩ <;> obtain ⟨hc, _, hw⟩ := hw
  · rfl
  · have hv := h.v3
    rw [isV3, hc] at hv
    exact (Keep.write hw).spec.2.1.trans hv
  · exact h.unarmed

theorem protoAuthenticate_contain {s s' : S} {token key : Option Bytes} {r : R Unit}
    (hs : AuthPre s) (htok : ∀ t, token = some t → t.length < 65536) (hkey : ∀ k, key = some k → k.length = 32)
    (h : protoAuthenticate p rx s token key = (r, s')) :
    ErrIn Allowed r ∧ (r = .ok () → authenticated s' = true) ∧ AuthPre s' := by
  have hpost : AuthPre s' := by
    obtain ⟨tr, ht, hsh, _⟩ := protoAuthenticate_tr h
    exact hs.tr ht fun e he => ⟨(hsh e he).2, (hsh e he).1.spec.2.1⟩
  suffices ErrIn Allowed r ∧ (r = .ok () → authenticated s' = true) from ⟨this.1, this.2, hpost⟩
  have hf : AuthPre (opForget (flush s)) :=
    hs.tr (p := p) (rx := rx) (.soft (.flush s) (opForget_tr _)) (forall_mem_optEv _ fun _ => ⟨rfl, rfl⟩)
  revert h
  fun_cases protoAuthenticate p rx s token key with
  | case1 | case2 | case7 => rintro ⟨⟩; exact ⟨.error (.inr (.inl rfl)), nofun⟩
  | case3 tk _ _ e hne he => exact absurd (opWriteHS_contain hf.conn (htok tk rfl) he) hne
  | case4 => rintro ⟨⟩; exact ⟨.error (.inr (.inr rfl)), nofun⟩
  | case5 _ _ _ _ hw _ hq =>
    obtain ⟨_, _, hw⟩ := opWriteHS_ok hw
    exact absurd rfl (awaitQueue_unarmed (hf.wrote hw).unarmed hq)
  | case6 _ ky _ _ hw _ _ hq =>
    intro h
    obtain ⟨_, _, hw⟩ := opWriteHS_ok hw
    have h1 := hf.wrote hw
    obtain ⟨a2, a3⟩ := acceptReply_contain (hkey ky rfl) (awaitQueue_len h1.qok h1.v3 hq) (read_tr (p := p) hw hq).2.1 h
    exact ⟨a2.mono fun _ h => .inr (.inl h), a3⟩

theorem authLoop_contain {token key : Option Bytes} {n : Nat} {s s' : S} {r : R Unit}
    (hs : AuthPre s) (htok : ∀ t, token = some t → t.length < 65536) (hkey : ∀ k, key = some k → k.length = 32)
    (h : authLoop p rx token key n s = (r, s')) :
    ErrIn Allowed r ∧ (r = .ok () → 0 < n → authenticated s' = true) := by
  revert h
  fun_induction authLoop p rx token key n s with
  | case1 => rintro ⟨⟩; exact ⟨.ok, fun _ h => absurd h (Nat.lt_irrefl _)⟩
  | case2 _ _ _ hp => rintro ⟨⟩; exact ⟨.ok, fun _ _ => (protoAuthenticate_contain hs htok hkey hp).2.1 rfl⟩
  | case3 _ _ _ hp _ ih =>
    intro h
    obtain ⟨b1, b2⟩ := ih (protoAuthenticate_contain hs htok hkey hp).2.2 h
    exact ⟨b1, fun hr _ => b2 hr (by omega)⟩
  | case4 => rintro ⟨⟩; exact ⟨.error (.inr (.inr rfl)), nofun⟩
  | case5 _ _ e _ _ hp => rintro ⟨⟩; exact ⟨(protoAuthenticate_contain hs htok hkey hp).1, nofun⟩

theorem authOn_contain {tk ky : Option Bytes} {n : Nat} {s s' : S} {r : R Unit}
    (hs : AuthPre s) (hn : 0 < n) (htok : ∀ t, tk = some t → t.length < 65536) (hkey : ∀ k, ky = some k → k.length = 32)
    (h : authOn p rx s tk ky n = (r, s')) :
    ErrIn Allowed r ∧ (r = .ok () → (coreOf s').isSome = true) := by
  unfold authOn at h
  split at h
  · rename_i e _ hl
    cases h
    exact ⟨(authLoop_contain hs htok hkey hl).1, nofun⟩
  · rename_i hl
    have hauth := (authLoop_contain hs htok hkey hl).2 rfl hn
    revert h
    fun_cases finishAuth p _ tk ky <;> rintro ⟨⟩
    · rename_i hna; rw [hauth] at hna; cases hna
    · exact ⟨.ok, fun _ => by
        rw [(pump_ticks (storeCreds _ tk ky) _).core]; exact authenticated_isSome hauth⟩

theorem opConnect_contain {s s1 : S} {r : R Unit} (h : opConnect p s = (r, s1)) :
    ErrIn Allowed r ∧ (r = .ok () → s1 = opConnected (dropConnect s)) := by
  revert h
  fun_cases opConnect p s <;> rintro ⟨⟩
  · exact ⟨.error (.inl rfl), nofun⟩
  · exact ⟨.error (.inl rfl), nofun⟩
  · exact ⟨.error (.inr (.inr rfl)), nofun⟩
  · exact ⟨.ok, fun _ => rfl⟩

theorem lanAuthenticate_contain {s s' : S} {token key : Option Bytes} {n : Nat} {r : R Unit}
    (hq : QOk s) (hn : 0 < n) (hnc : s.w.cancelAt = none)
    (htok : ∀ t, pickCred token key s.l.token = some t → t.length < 65536)
    (hkey : ∀ k, pickCred key token s.l.key = some k → k.length = 32)
    (h : lanAuthenticate p rx s token key n = (r, s')) :
    ErrIn Allowed r ∧ (r = .ok () → (coreOf s').isSome = true) := by
  rw [lanAuthenticate_eq] at h
  split at h
  · split at h
    · rename_i hco
      cases h
      exact ⟨(opConnect_contain hco).1, nofun⟩
    · rename_i hco
      rw [(opConnect_contain hco).2 rfl] at h
      exact authOn_contain (s := opConnected (dropConnect (setVersion3 (opDisconnect s))))
        ⟨qok_opConnected _, by rw [coreOf_opConnected]; rfl, by rw [isV3_opConnected]; rfl,
          (cancelAt_opDisconnect s).trans hnc⟩ hn htok hkey h
  · rename_i hcond
    have hal : connAlive s = true ∧ isV3 s = true := by simpa using hcond
    exact authOn_contain ⟨hq, connAlive_isSome hal.1, hal.2, hnc⟩ hn htok hkey h

theorem sendLoop_contain {frame : Bytes} {n : Nat} {s s' : S} {acc : List Bytes}
    {e : Err} (hq : QOk s) (hs : (coreOf s).isSome = true) (h : sendLoop p rx frame n s acc = (.error e, s')) :
    Allowed e := by
  revert h
  fun_induction sendLoop p rx frame n s acc with
  | case1 | case9 => nofun
  | case2 _ _ _ _ hw =>
    rintro ⟨⟩
    exact .inl ((opWrite_err hw).resolve_right fun ⟨_, hc⟩ => by simp [coreOf, hc] at hs)
  | case3 _ _ _ _ hw _ ha _ ih => exact ih (read_contain hq hw ha).1 (read_contain hq hw ha).2.1
  | case4 | case5 => rintro ⟨⟩; exact .inr (.inr rfl)
  | case6 => rintro ⟨⟩; exact .inl rfl
  | case7 => rintro ⟨⟩; exact .inr (.inl rfl)
  | case8 _ _ _ _ hw _ _ ha e hne _ hd => exact absurd ((read_contain hq hw ha).2.2 _ _ rfl hd) hne

theorem exchange_contain {s s' : S} {frame : Bytes} {n : Nat} {e : Err}
    (hq : QOk s) (hs : (coreOf s).isSome = true) (h : exchange p rx s frame n = (.error e, s')) : Allowed e := by
  revert h
  fun_cases exchange p rx s frame n with
  | case1 _ _ hpre => rintro ⟨⟩; exact .inl (readAvailable_contain hq hpre)
  | case2 _ _ hpre _ _ hl =>
    rintro ⟨⟩
    have h0 : Tr p rx s [] _ := readAvailable_tr hpre
    exact sendLoop_contain (h0.qok hq) (tr_keeps_conn h0 nofun hs).1 hl
  | case3 _ _ hpre _ _ hl =>
    intro h
    obtain ⟨_, i⟩ := sendLoop_tr hl
    exact .inl (readAvailable_contain (i.path.qok ((readAvailable_tr (p := p) (rx := rx) hpre).qok hq)) h)

/-- well-formed stored credentials: a token that fits the 2-byte size field, a 32-byte key -/
def CredOk (s : S) : Prop :=
  (∀ t, s.l.token = some t → t.length < 65536) ∧ (∀ k, s.l.key = some k → k.length = 32)

theorem credOk_of_creds {s s' : S} (h : CredOk s) (he : creds s' = creds s) : CredOk s' := by
  simp only [creds, Prod.mk.injEq] at he
  unfold CredOk; rw [he.1, he.2]; exact h

theorem lanRetries_pos : 0 < Generated.lanRetries := by decide

theorem sendOn_contain {s s' : S} {frame : Bytes} {n : Nat} {e : Err}
    (hq : QOk s) (hc : CredOk s) (hs : (coreOf s).isSome = true) (hnc : s.w.cancelAt = none)
    (h : sendOn p rx s frame n = (.error e, s')) : Allowed e := by
  have auth : ∀ {r s2}, ensureAuth p rx s = (r, s2) →
      ErrIn Allowed r ∧ (r = .ok () → QOk s2 ∧ (coreOf s2).isSome = true) := by
    intro r s2
    fun_cases ensureAuth p rx s
    · intro ha
      have := lanAuthenticate_contain hq lanRetries_pos hnc (by rw [pickCred_none]; exact hc.1)
        (by rw [pickCred_none]; exact hc.2) ha
      exact ⟨this.1, fun hr => ⟨lanAuthenticate_qok hq ha, this.2 hr⟩⟩
    · rintro ⟨⟩; exact ⟨.ok, fun _ => ⟨hq, hs⟩⟩
  unfold sendOn at h
  split at h
  · rename_i ha
    cases h
    exact (auth ha).1 e rfl
  · rename_i ha
    exact exchange_contain ((auth ha).2 rfl).1 ((auth ha).2 rfl).2 h

/-- **containment of `LAN.send`** -/
theorem lanSend_contain {s s' : S} {frame : Bytes} {n : Nat} {e : Err}
    (hq : QOk s) (hc : CredOk s) (hnc : s.w.cancelAt = none) (h : lanSend p rx s frame n = (.error e, s')) :
    Allowed e := by
  rw [lanSend_eq] at h
  split at h
  · split at h
    · rename_i hco
      cases h
      exact (opConnect_contain hco).1 e rfl
    · rename_i hco
      rw [(opConnect_contain hco).2 rfl] at h
      exact sendOn_contain (s := opConnected (dropConnect (opDisconnect s))) (qok_opConnected _)
        (credOk_of_creds hc (by simp)) (by rw [coreOf_opConnected]; rfl) ((cancelAt_opDisconnect s).trans hnc) h
  · rename_i hal
    exact sendOn_contain hq hc (connAlive_isSome (by simpa using hal)) hnc h

end Msmart.Lemmas.Sess
