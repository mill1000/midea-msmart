/-
  Settled states of V2 sessions (no handshake, no reassembly buffer): against a peer whose reaction to
  every write is nothing or ONE prompt event of any kind — an answer, an undecodable segment, a close —
  no exchange leaves anything behind: nothing pending on the network, nothing queued on an open
  connection.  The V2 instance of `SessionSettle`.
-/
import Msmart.Lemmas.SessionSettle

namespace Msmart.Lemmas.Sess
open Msmart.Model.Session

variable {p : Params} {rx : Reactions} {s : S}

/-- a peer whose reaction to every write is nothing, or one event (any) within the read timeout -/
def Gentle2 (p : Params) (rx : Reactions) : Prop :=
  ∀ cid idx, rx cid idx = [] ∨ ∃ d ev, rx cid idx = [(d, ev)] ∧ d ≤ p.readTimeout

/-- nothing left behind (V2 session) -/
structure Settled2 (s : S) : Prop where
  quiet : s.w.pending = []
  unarmed : s.w.cancelAt = none
  ver : s.l.version ≠ 3
  conn : ∀ c, s.l.conn = some c → c.core.v3 = false ∧ (c.closing = true ∨ c.queue = [])

theorem settledV_false : SettledV false s ↔ Settled2 s :=
  ⟨fun h => ⟨h.quiet, h.unarmed, by simpa using h.ver, by simpa using h.conn⟩,
   fun h => ⟨h.quiet, h.unarmed, by simpa using h.ver, by simpa using h.conn⟩⟩

theorem Gentle2.gentleV (h : Gentle2 p rx) : GentleV false p rx := by
  intro cid idx
  rcases h cid idx with h0 | ⟨d, ev, h1, hd⟩
  · exact .inl h0
  · exact .inr ⟨d, ev, h1, hd, nofun⟩

end Msmart.Lemmas.Sess
