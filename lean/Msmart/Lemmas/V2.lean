/-
  Lemmas for the V2 packet codec: the key constants and byte orders of the model are those of the independent
  implementation (`Spec/V2Spec.lean`), `encryptAes` is undone by `decryptAes`, and what the checks of
  `_Packet.decode` come to on a packet given by its parts.
-/
import Msmart.Model.PacketV2
import Msmart.Spec.V2Spec
import Msmart.Crypto.ModeProps
import Msmart.Lemmas.Base

namespace Msmart.Lemmas
open Msmart.Model Msmart.Crypto

/-- the key constants regenerated from /repo are the ones the format specifies
    (ENC_KEY = md5(SIGN_KEY), evaluated in the kernel) -/
theorem signKey_eq : Generated.signKey = Spec.V2.signKey := by decide +kernel
theorem encKey_eq : Generated.encKey = Spec.V2.encKey := by decide +kernel

theorem le_eq_toLE (k n : Nat) : Spec.V2.le k n = Py.toLE k n := by
  induction k generalizing n with
  | zero => rfl
  | succ k ih => simp [Spec.V2.le, Py.toLE, ih]

theorem unle_eq_fromLE (b : Bytes) : Spec.V2.unle b = Py.fromLE b := by
  induction b with
  | nil => rfl
  | cons x t ih => simp [Spec.V2.unle, Py.fromLE, ih]

theorem sign_length (m : Bytes) : (sign m).length = 16 := MD5.md5_length _

theorem v2Header_length (l : Nat) (ts : Bytes) (id : Nat) (hts : ts.length = 8) :
    (v2Header l ts id).length = 40 := by
  simp [v2Header, toLE_length, Py.zeros, hts]

theorem encryptAes_length (frame : Bytes) : (encryptAes frame).length = frame.length + (16 - frame.length % 16) := by
  unfold encryptAes; rw [AES.ecbEncrypt_length, AES.pkcs7Pad_length]

theorem encryptAes_mod (frame : Bytes) : (encryptAes frame).length % 16 = 0 := by
  unfold encryptAes; rw [AES.ecbEncrypt_length]; exact AES.pkcs7Pad_length_mod frame

theorem decryptAes_encryptAes (frame : Bytes) : decryptAes (encryptAes frame) = .ok frame := by
  unfold decryptAes
  rw [if_neg (by rw [encryptAes_mod]; simp)]
  unfold encryptAes
  rw [AES.ecbDecrypt_ecbEncrypt, AES.pkcs7Unpad_pkcs7Pad]

theorem spec_body_eq (frame : Bytes) : Spec.V2.body frame = encryptAes frame := by
  unfold Spec.V2.body encryptAes; rw [encKey_eq]

/-- the four checks of `_Packet.decode` fail alike, so they are one condition -/
theorem packetCheck_eq (data : Bytes) :
    packetCheck data =
      if 6 ≤ data.length ∧ data.take 2 = [0x5A, 0x5A] ∧ Py.fromLE ((data.drop 4).take 2) ≤ data.length ∧
          sign ((v2Cut data).take ((v2Cut data).length - 16)) = (v2Cut data).drop ((v2Cut data).length - 16)
      then .ok (((v2Cut data).take ((v2Cut data).length - 16)).drop 40) else .error .protocol := by
  simp only [packetCheck, ite_and, ← Nat.not_lt, ite_not, ne_eq]

theorem packetCheck_err {d : Bytes} {e : Err} (h : packetCheck d = .error e) : e = .protocol :=
  err_of_ite (packetCheck_eq d ▸ h)

theorem packetDecode_of_check_err {d : Bytes} {e : Err} (h : packetCheck d = .error e) :
    packetDecode d = .error e := by
  unfold packetDecode; rw [h]

theorem v2Cut_eq_self {data : Bytes} (h : Py.fromLE ((data.drop 4).take 2) = data.length) : v2Cut data = data := by
  unfold v2Cut; rw [h, List.take_length]

/-- `_Packet.decode` on signed text ++ 16-byte tag, the length field in the text being right: only the marker and the
    signature are left to decide, and the ciphertext is the signed text from byte 40 on -/
theorem packetCheck_append (S T : Bytes) (hT : T.length = 16) (hS : 6 ≤ S.length)
    (hl : Py.fromLE ((S.drop 4).take 2) = S.length + 16) :
    packetCheck (S ++ T) = if S.take 2 = [0x5A, 0x5A] ∧ sign S = T then .ok (S.drop 40) else .error .protocol := by
  have hf : Py.fromLE (((S ++ T).drop 4).take 2) = (S ++ T).length := by
    rw [drop_take_of_prefix S T 4 2 hS, hl, List.length_append, hT]
  have h6 : 6 ≤ (S ++ T).length := by rw [List.length_append]; omega
  rw [packetCheck_eq, v2Cut_eq_self hf, take_sub_right S T hT, drop_sub_right S T hT, hf,
    List.take_append_of_le_length (by omega)]
  simp only [h6, Nat.le_refl, true_and]

/-- the same for header(40) ++ ciphertext ++ tag(16) -/
theorem packetCheck_layout (H B T : Bytes) (hH : H.length = 40) (hT : T.length = 16)
    (hl : Py.fromLE ((H.drop 4).take 2) = 56 + B.length) :
    packetCheck ((H ++ B) ++ T) =
      if H.take 2 = [0x5A, 0x5A] ∧ sign (H ++ B) = T then .ok B else .error .protocol := by
  rw [packetCheck_append _ T hT (by rw [List.length_append]; omega)
    (by rw [drop_take_of_prefix H B 4 2 (by omega), hl, List.length_append]; omega),
    List.take_append_of_le_length (by omega), List.drop_left' hH]

end Msmart.Lemmas
