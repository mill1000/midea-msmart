/-
  The TRANSLATED code (`Generated/Codec.lean`, written by harness/pytrans.py from the source text of /repo on
  every run) computes, FOR ALL INPUTS, what the hand-written Model computes.  These equalities are the second tie
  between model and code (DESIGN §3.1b): a change of a mask, shift, constant, branch or index in the Python
  regenerates `Codec.lean`, and either these proofs no longer check or the two functions are still equal.
-/
import Msmart.Generated.Codec
import Msmart.Lemmas.Crc
import Msmart.Lemmas.Base

-- the `simp only` sets also hold the rules for other ways of writing the same Python, unused on the present text
set_option linter.unusedSimpArgs false

namespace Msmart.CodecEq
open Msmart.Generated
open Msmart.Model

/-! ### constant command bodies -/

theorem toggleDisplay_eq (b : Bool) : Codec.toggleDisplayBody b = Cmd.body (.toggleDisplay b) := by
  cases b <;> rfl

theorem getState_eq : Codec.getStateBody 2 = Cmd.body .getState := by rfl
theorem getEnergy_eq : Codec.getEnergyBody = Cmd.body .getEnergy := by rfl
theorem getHumidity_eq : Codec.getHumidityBody = Cmd.body .getHumidity := by rfl
theorem getCapabilities_eq (a : Bool) : Codec.getCapabilitiesBody a = Cmd.body (.getCapabilities a) := by
  cases a <;> rfl

/-! ### SetStateCommand.tobytes -/

theorem band_15 (x : Int) : Py.band x 15 = x % 16 := Py.band_mask x (by decide)

theorem ints_cons (b : UInt8) (l : Bytes) : Py.ints (b :: l) = (b.toNat : Int) :: Py.ints l := rfl
theorem ints_nil : Py.ints [] = [] := rfl
theorem ints_append (a b : Bytes) : Py.ints (a ++ b) = Py.ints a ++ Py.ints b := List.map_append
theorem ints_length (l : Bytes) : (Py.ints l).length = l.length := List.length_map _

theorem ints_roundtrip (l : Bytes) : (Py.ints l).map (fun x => x.toNat.toUInt8) = l := by
  simp [Py.ints, Function.comp_def]

theorem bytesOf_ok {l : List Int} {m : Bytes} (h : l = m.map (fun b => (b.toNat : Int))) : Py.bytesOf l = .ok m := by
  subst h
  unfold Py.bytesOf
  rw [if_pos, ← Py.ints, ints_roundtrip]
  simp only [List.all_map, List.all_eq_true, Function.comp, Bool.and_eq_true, decide_eq_true_eq]
  intro b _; have := b.toNat_lt; omega

theorem bytesOf_bad (pre : List Int) (x : Int) (post : List Int) (h : x < 0 ∨ x > 255) :
    Py.bytesOf (pre ++ x :: post) = .error (.py "ValueError") := by
  unfold Py.bytesOf
  rw [if_neg]
  simp only [List.all_append, List.all_cons, Bool.and_eq_true, decide_eq_true_eq, not_and]
  omega

-- single bytes of the body: `|` on Python's ints is `|||` on the model's bytes
theorem b1 (beep power : Bool) :
    Py.bor (Py.bor 2 (if beep then 64 else 0)) (if power then 1 else 0)
      = (((Generated.controlSource.toUInt8) ||| flag beep 0x40 ||| flag power 0x01).toNat : Int) := by
  cases beep <;> cases power <;> rfl

theorem b2_fin : ∀ k, k < 16 → ∀ f : Bool, ∀ m, m < 8 →
    Py.bor (Py.bor ((k : Nat) : Int) (if f then 16 else 0)) ((((m : Nat) : Int)) <<< 5)
      = ((((k : Nat).toUInt8 ||| (if f then 0x10 else 0)) ||| ((m * 32).toUInt8)).toNat : Int) := by
  decide +kernel

theorem b7_fin : ∀ k, k < 64 → Py.bor 48 ((k : Nat) : Int) = (((0x30 : UInt8) ||| (k : Nat).toUInt8).toNat : Int) := by
  decide +kernel
theorem b8 (a b : Bool) : Py.bor (if a then 128 else 0) (if b then 32 else 0) = ((flag a 0x80 ||| flag b 0x20).toNat : Int) := by
  cases a <;> cases b <;> rfl
theorem b9 (a b c d : Bool) :
    Py.bor (Py.bor (Py.bor (if a then 128 else 0) (if b then 32 else 0)) (if c then 16 else 0)) (if d then 8 else 0)
     = ((flag a 0x80 ||| flag b 0x20 ||| flag c 0x10 ||| flag d 0x08).toNat : Int) := by
  cases a <;> cases b <;> cases c <;> cases d <;> rfl
theorem b10 (a b c : Bool) :
    Py.bor (Py.bor (if a then 1 else 0) (if b then 2 else 0)) (if c then 4 else 0)
     = ((flag a 0x01 ||| flag b 0x02 ||| flag c 0x04).toNat : Int) := by
  cases a <;> cases b <;> cases c <;> rfl
theorem b21 (a : Bool) : (if a then (128:Int) else 0) = ((flag a 0x80).toNat : Int) := by cases a <;> rfl
theorem b22 (a : Bool) : (if a then (8:Int) else 0) = ((flag a 0x08).toNat : Int) := by cases a <;> rfl

theorem u8_lt (n : Nat) (h : n < 256) : ((n.toUInt8).toNat : Int) = n := by
  rw [Lemmas.u8nat n h]

theorem b19_fin : ∀ h, h < 128 → (((h : Nat) : Int)) = (((h % 128).toUInt8).toNat : Int) :=
  fun h hh => by rw [Nat.mod_eq_of_lt hh, u8_lt h (by omega)]
theorem b18_fin : ∀ k, k < 32 → (((k : Nat) : Int)) = (((k : Nat).toUInt8).toNat : Int) :=
  fun k hk => (u8_lt k (by omega)).symm

/-- the translated `SetStateCommand.tobytes` applied to the attribute values of a command object -/
def setStateCode (s : SetState) : R Bytes :=
  Codec.setStateBody s.beep s.power s.tempCenti (s.mode : Int) s.fan s.eco (s.swing : Int) s.turbo s.fahrenheit s.sleep
    s.freeze s.followMe s.purifier (s.humidity : Int) s.auxHeat s.forceAuxHeat s.indepAuxHeat

/-- **tie.** For EVERY attribute assignment (any integers, any booleans) the translated `SetStateCommand.tobytes`
    produces the body the hand-written model produces - including the ValueError for a fan speed outside a byte. -/
theorem setStateBody_eq (s : SetState) : setStateCode s = setStateBody s := by
  first
  | (
      obtain ⟨beep, power, tempCenti, mode, fan, eco, swing, turbo, fahrenheit, sleep, freeze, followMe, purifier, humidity,
        auxHeat, forceAuxHeat, indepAuxHeat⟩ := s
      unfold setStateCode Codec.setStateBody Model.setStateBody
      by_cases hf : fan < 0 ∨ fan > 255
      · rw [if_pos hf]
        exact bytesOf_bad [64, _, _] fan _ hf
      · rw [if_neg hf]
        refine bytesOf_ok ?_
        simp only [List.map_cons, List.map_nil, Int.mul_tdiv_cancel_left _ (show (100 : Int) ≠ 0 by decide), List.cons.injEq, and_true]
        refine ⟨rfl, ?b1, ?b2, ?b3, rfl, rfl, rfl, ?b7, ?b8, ?b9, ?b10, rfl, rfl, rfl, rfl, rfl, rfl, rfl, ?b18, ?b19, rfl, ?b21, ?b22, rfl⟩
        case b1 => cases beep <;> cases power <;> rfl
        case b8 => cases followMe <;> cases turbo <;> rfl
        case b9 => cases eco <;> cases purifier <;> cases forceAuxHeat <;> cases auxHeat <;> rfl
        case b10 => cases sleep <;> cases turbo <;> cases fahrenheit <;> rfl
        case b21 => cases freeze <;> rfl
        case b22 => cases indepAuxHeat <;> rfl
        case b3 =>
          have h : fan.toNat < 256 := by omega
          rw [u8_lt _ h]; omega
        case b7 =>
          simp (disch := decide) only [Py.band_mask, Nat.reduceAdd, ← Int.natCast_emod]
          have hk : swing % 64 < 64 := Nat.mod_lt _ (by decide)
          generalize swing % 64 = k at hk ⊢
          revert k; decide +kernel
        case b19 =>
          simp (disch := decide) only [Py.band_mask, Nat.reduceAdd, ← Int.natCast_emod]
          exact (u8_lt _ (by omega)).symm
        case b18 =>
          unfold tempAltByte usePrimary integralTemp
          simp (disch := decide) only [Py.band_mask, Nat.reduceAdd, Int.cast_ofNat_Int, Bool.and_eq_true, decide_eq_true_eq,
            Bool.decide_and]
          generalize tempCenti.tdiv 100 = I
          by_cases hP : 17 ≤ I ∧ I ≤ 30
          · simp only [hP, and_self, if_true]; rfl
          · simp only [hP, if_false]
            rw [u8_lt _ (by omega)]; omega
        case b2 =>
          unfold tempByte usePrimary integralTemp fracPositive
          -- the half-degree flag as a Boolean, the mode below 8, the primary code below 16 (or absent): decided
          generalize decide (0 < tempCenti.tmod 100) = f
          simp (disch := decide) only [Py.band_mask, Nat.reduceAdd, Int.cast_ofNat_Int, Bool.and_eq_true, decide_eq_true_eq,
            Bool.decide_and]
          generalize tempCenti.tdiv 100 = I
          rw [show ((mode : Int) % 8) = ((mode % 8 : Nat) : Int) from (Int.natCast_emod mode 8).symm]
          have hmlt : mode % 8 < 8 := Nat.mod_lt _ (by decide)
          generalize mode % 8 = m at hmlt ⊢
          by_cases hP : 17 ≤ I ∧ I ≤ 30
          · simp only [hP, and_self, if_true]
            have e : (I - 16) % 16 = ((((I - 16)).toNat : Nat) : Int) := by omega
            rw [e, Int.toNat_natCast]
            have hk : (I - 16).toNat < 16 := by omega
            generalize (I - 16).toNat = k at hk ⊢
            revert k m f; decide +kernel
          · simp only [hP, if_false]
            revert m f; decide +kernel
      done)
  | (-- the translator reported `unsupported`: `Codec.setStateBody` is the model itself
     cases s; simp [setStateCode, Codec.setStateBody])

/-! ### StateResponse._parse_temperature / _parse -/

theorem u8_forall {P : UInt8 → Prop} (h : ∀ n, n < 256 → P n.toUInt8) (b : UInt8) : P b := Msmart.u8_forall h b

theorem parseTemperature_eq_nat : ∀ d, d < 256 → ∀ n, n < 16 → ∀ f : Bool,
    Codec.parseTemperature (d : Nat) (10 * (n : Nat)) f = (parseTemp d n f).map (· * 10) := by
  first
  | (
      -- branch by branch; neither bound is needed
      intro d _ n _ f
      unfold Codec.parseTemperature parseTemp
      rw [show Int.tdiv (50 * ((d : Int) - 50)) 100 = Int.tdiv ((d : Int) - 50) 2 from
        Int.mul_tdiv_mul_of_pos ((d : Int) - 50) 2 (by decide : (0 : Int) < 50)]
      generalize Int.tdiv ((d : Int) - 50) 2 = q
      have c0 : decide ((255 : Int) ≠ d) = decide (¬ d = 255) := decide_eq_decide.mpr (by omega)
      have c1 : decide (10 * (n : Int) ≠ 0) = decide (n ≠ 0) := decide_eq_decide.mpr (by omega)
      have c2 : decide (0 ≤ 50 * ((d : Int) - 50)) = decide (d ≥ 50) := decide_eq_decide.mpr (by omega)
      have c3 : decide (50 ≤ 10 * (n : Int)) = decide (n ≥ 5) := decide_eq_decide.mpr (by omega)
      rw [c0, c1, c2, c3]
      simp only [decide_eq_true_eq]
      by_cases hd : d = 255
      · rw [if_neg (not_not_intro hd), if_pos hd]; rfl
      · rw [if_pos hd, if_neg hd]
        by_cases hc : (!f && decide (n ≠ 0)) = true
        · rw [if_pos hc, if_pos hc, Option.map_some]; congr 1; split <;> omega
        · rw [if_neg hc, if_neg hc]
          by_cases h5 : n ≥ 5
          · rw [if_pos h5, if_pos h5, Option.map_some]; congr 1; split <;> omega
          · rw [if_neg h5, if_neg h5, Option.map_some]; congr 1; omega
      done)
  | decide +kernel

theorem bit_eq (b : UInt8) (k : Nat) (hk : k < 8) :
    decide (Py.band (b.toNat : Int) (2 ^ k) ≠ 0) = bit b ((2 ^ k : Nat).toUInt8) := by
  simp only [Py.band_u8, ne_eq, Py.u8_eq_int, Int.reduceLE, Int.reduceLT, true_and, Int.toNat_zero, UInt8.reduceOfNat,
    bit, Nat.toUInt8_eq]

theorem display_eq (b : UInt8) : decide ((b.toNat : Int) ≠ 112) = decide (b ≠ 0x70) := by
  simp only [ne_eq, Py.u8_eq_int, Int.reduceLE, Int.reduceLT, true_and, Int.reduceToNat, UInt8.reduceOfNat]

theorem and_7_toNat (x : UInt8) : (x &&& 7).toNat = x.toNat % 8 := by
  rw [UInt8.toNat_and]; exact Nat.and_two_pow_sub_one_eq_mod _ 3

/-- the model's target temperature, arranged as `_parse` computes it -/
theorem stateTemp_eq (b2 b13 : UInt8) :
    stateTemp b2 b13 =
      if b13 &&& 31 = 0 then 100 * ((b2 &&& 15).toNat : Int) + (if b2 &&& 16 = 0 then 0 else 50) + 1600
      else 100 * (((b13 &&& 31).toNat : Int) + 12) + (if b2 &&& 16 = 0 then 0 else 50) := by
  unfold stateTemp bit
  simp only [ne_eq, decide_not, ite_not, Bool.not_eq_true', decide_eq_false_iff_not]
  split <;> split <;> omega

theorem indoor_eq (b11 b15 : UInt8) (f : Bool) :
    Codec.parseTemperature (b11.toNat : Int) ((10 : Int) * ((b15 &&& 15).toNat : Int)) f
      = (parseTemp b11.toNat (b15 &&& 15).toNat f).map (· * 10) :=
  parseTemperature_eq_nat _ b11.toNat_lt _
    (by rw [UInt8.toNat_and]; exact Nat.lt_succ_of_le Nat.and_le_right) _

theorem outdoor_eq (b12 b15 : UInt8) (f : Bool) :
    Codec.parseTemperature (b12.toNat : Int) ((10 : Int) * ((b15 >>> 4).toNat : Int)) f
      = (parseTemp b12.toNat (b15 >>> 4).toNat f).map (· * 10) :=
  parseTemperature_eq_nat _ b12.toNat_lt _
    (by rw [UInt8.toNat_shiftRight, Nat.shiftRight_eq_div_pow]; have := b15.toNat_lt; exact Nat.div_lt_of_lt_mul this) _

theorem ok_bind {α β} (a : α) (f : α → R β) : (Except.ok a >>= f) = f a := rfl

/-- **tie.** For EVERY payload (any length, any bytes) the translated `StateResponse._parse` yields the attributes
    the hand-written model yields, and fails with IndexError exactly when the model does. -/
theorem parseState_eq (p : Bytes) :
    Codec.parseState p = (Model.parseState p >>= fun m => pure (Codec.StateAttrs.ofModel m)) := by
  first
  | (
      unfold Codec.parseState Model.parseState
      simp only [Py.idxI_bind, bind_assoc, pure_bind]
      iterate 12 refine bind_congr fun _ => ?_
      -- masks, shifts and comparisons with literals become the model's byte operations, whatever the literal and orientation
      simp only [Codec.StateAttrs.ofModel, Py.band_u8, Py.shr_u8 _ (show 5 < 8 by decide), Py.shr_u8 _ (show 4 < 8 by decide),
        Py.int_eq_u8, Py.u8_eq_int, Int.reduceLE, Int.reduceLT, true_and, Py.natCast_lt_int, Py.int_le_natCast, ne_eq,
        Int.reduceToNat, UInt8.reduceOfNat, Int.cast_ofNat_Int, decide_eq_true_eq, decide_not, ite_not, Bool.not_eq_true',
        decide_eq_false_iff_not, indoor_eq, outdoor_eq, stateTemp_eq, bit, and_7_toNat]
      by_cases h20 : p.length < 20
      · simp only [h20, show p.length < 22 by omega, if_true, Option.map_none]
      · rw [Lemmas.idx_lt (show 19 < p.length by omega)]
        by_cases h22 : p.length < 22
        · simp only [h20, h22, if_true, if_false, ok_bind, Lemmas.getElem?_getD (show 19 < p.length by omega),
            Option.map_some]
        · rw [if_neg h20, if_neg h22, Lemmas.idx_lt (show 21 < p.length by omega)]
          simp only [h20, h22, if_false, ok_bind, Lemmas.getElem?_getD (show 19 < p.length by omega),
            Lemmas.getElem?_getD (show 21 < p.length by omega), Option.map_some]
      done)
  | (unfold Codec.parseState; cases Model.parseState p <;> rfl)

/-! ### crc8.calculate -/

theorem band_255 (x : Int) : Py.band x 255 = x % 256 := Py.band_mask x (by decide)

theorem crc_step_u8 (x : UInt8) : Py.tableGet Codec.crc8TableSrc (Py.band (x.toNat : Int) 255) = ((crcT x).toNat : Int) := by
  -- the table literal of the source is, entry by entry, the table `calculate` is observed to step through
  have ht : Codec.crc8TableSrc = Generated.crc8Table.toList.map (fun b => (b.toNat : Int)) := by decide +kernel
  have hx : Py.band (x.toNat : Int) 255 = (x.toNat : Int) := by
    rw [band_255]; have := x.toNat_lt; omega
  rw [hx, ht]
  unfold Py.tableGet crcT
  rw [Int.toNat_natCast, List.getD_eq_getElem?_getD, List.getElem?_map, Array.getElem?_toList,
    Array.getD_eq_getD_getElem?]
  cases Generated.crc8Table[x.toNat]? <;> rfl

theorem crc_fold (data : Bytes) (c : UInt8) :
    List.foldl (fun (crc_value : Int) (m : Int) => Py.tableGet Codec.crc8TableSrc (Py.band (Py.bxor crc_value m) 255))
      (c.toNat : Int) (Py.ints data) = (((data.foldl (fun c m => crcT (c ^^^ m)) c).toNat : Nat) : Int) := by
  induction data generalizing c with
  | nil => rfl
  | cons m t ih =>
    rw [ints_cons, List.foldl_cons, List.foldl_cons, Py.bxor_u8, crc_step_u8]
    exact ih _

/-- **tie.** `crc8.calculate` as translated = the model's table-driven CRC, for every byte string. -/
theorem crc8Calculate_eq (data : Bytes) : Codec.crc8Calculate (Py.ints data) = ((Model.crc8 data).toNat : Int) := by
  first
  | (
      unfold Codec.crc8Calculate Model.crc8
      exact crc_fold data 0
      done)
  | (unfold Codec.crc8Calculate; rw [ints_roundtrip])

/-! ### Frame.checksum -/
theorem sumI_fold (l : Bytes) (a : Int) : List.foldl (· + ·) a (Py.ints l) = a + (sumB l : Int) := by
  induction l generalizing a with
  | nil => exact (Int.add_zero a).symm
  | cons b t ih => rw [ints_cons, List.foldl_cons, ih, Lemmas.sumB_cons]; push_cast; omega

theorem sumI_ints (l : Bytes) : Py.sumI (Py.ints l) = (sumB l : Int) := by
  unfold Py.sumI; rw [sumI_fold]; omega

/-- **tie.** `Frame.checksum` as translated = the model's two's-complement checksum, for every byte string. -/
theorem checksum_eq (l : Bytes) : Codec.checksum (Py.ints l) = ((Model.checksum l).toNat : Int) := by
  first
  | (
      unfold Codec.checksum
      rw [band_255, sumI_ints, Lemmas.checksum_toNat]
      unfold checksumNat
      omega
      done)
  | (unfold Codec.checksum; rw [ints_roundtrip])

/-! ### Frame.tobytes -/
theorem slice_tail {α} (a : α) (l : List α) : Py.slice (a :: l) (some 1) none = l :=
  Py.slice_dropI _ 1 (by decide)

theorem guardRange_ok {α} (vals : List Int) (k : R α)
    (h : vals.all (fun x => decide (0 ≤ x) && decide (x < 256)) = true) : Py.guardRange vals k = k := by
  unfold Py.guardRange; rw [if_pos h]

theorem guardRange_inner_bad (vals l : List Int) (h : Py.bytesOf l = .error (.py "ValueError")) :
    Py.guardRange vals (Py.bytesOf l) = .error (.py "ValueError") := by
  unfold Py.guardRange; split
  · exact h
  · rfl

theorem checksum_range (l : List Int) : 0 ≤ Codec.checksum l ∧ Codec.checksum l < 256 := by
  first
  | (unfold Codec.checksum; rw [band_255]; omega)
  | (unfold Codec.checksum; have := UInt8.toNat_lt (Model.checksum (l.map (fun x => x.toNat.toUInt8))); omega)

/-- **tie.** `Frame.tobytes` as translated (protocol version 0, as `Frame.__init__` sets it) = the model's, for every
    device type, frame type and payload - including the ValueError when the length does not fit a byte. -/
theorem frameTobytes_eq (dt ft : UInt8) (data : Bytes) :
    Codec.frameTobytes (dt.toNat : Int) 0 (ft.toNat : Int) data = Model.frameToBytes dt ft data := by
  first
  | (
      -- whatever values Python range-checks on the way (`guardRange`, any list), the frame is the model's
      unfold Codec.frameTobytes Model.frameToBytes
      have hfl : Generated.frameHeaderLength = 10 := rfl
      rw [hfl]
      have hdt := dt.toNat_lt
      have hft := ft.toNat_lt
      have hck := checksum_range (Py.slice ([170, ((data.length : Int) + 10), (dt.toNat : Int), 0, 0, 0, 0, 0, 0, (ft.toNat : Int)] ++ Py.ints data) (some 1) none)
      by_cases hl : data.length + 10 > 255
      · rw [if_pos hl]
        exact guardRange_inner_bad _ _ (bytesOf_bad [170] _ _ (Or.inr (by omega)))
      · rw [if_neg hl, guardRange_ok]
        · have e : ((data.length : Int) + 10) = (((data.length + 10).toUInt8).toNat : Int) := by
            rw [u8_lt _ (by omega)]; push_cast; rfl
          rw [List.cons_append, slice_tail]
          have hs : Codec.checksum ([((data.length : Int) + 10), (dt.toNat : Int), 0, 0, 0, 0, 0, 0, (ft.toNat : Int)] ++ Py.ints data)
              = ((Model.checksum ([(data.length + 10).toUInt8, dt, 0, 0, 0, 0, 0, 0, ft] ++ data)).toNat : Int) := by
            rw [← checksum_eq, ints_append, e]; rfl
          rw [hs]
          refine bytesOf_ok ?_
          simp only [List.map_cons, List.map_append, List.map_nil, List.cons_append, List.nil_append, e]
          rfl
        · simp only [List.all_cons, List.all_nil, Bool.and_eq_true, decide_eq_true_eq, Bool.and_true]
          omega
      done)
  | (unfold Codec.frameTobytes; simp [Nat.toUInt8_eq])

/-! ### Frame.validate -/
theorem index_last (l : Bytes) (x : UInt8) : Py.index (Py.ints (l ++ [x])) (-1) = .ok (x.toNat : Int) := by
  have hl : (Py.ints (l ++ [x])).length = l.length + 1 := by rw [ints_length, List.length_append]; rfl
  unfold Py.index
  rw [if_pos (by decide), hl, if_neg (by omega), show ((-1 : Int) + ((l.length + 1 : Nat) : Int)).toNat = l.length by omega]
  simp [Py.ints]

theorem slice_inner (l : Bytes) (x : UInt8) :
    Py.slice (Py.ints (l ++ [x])) (some 1) (some (-1)) = Py.ints (l.drop 1) := by
  rw [Py.slice_mid_negI _ _ _ (by decide) (by decide), ints_length, ints_append]
  simp [Py.ints, ← List.map_drop]

theorem dropLast_drop (l : Bytes) (x : UInt8) : ((l ++ [x]).drop 1).dropLast = l.drop 1 := by
  cases l with
  | nil => rfl
  | cons a t => simp

/-- **tie.** `Frame.validate` as translated = the model's, for every byte string (IndexError on the empty frame). -/
theorem frameValidate_eq (frame : Bytes) : Codec.frameValidate frame = Model.frameValidate frame := by
  first
  | (
      unfold Codec.frameValidate Model.frameValidate
      cases List.eq_nil_or_concat frame with
      | inl h => subst h; rfl
      | inr h =>
        obtain ⟨l, x, h⟩ := h
        subst h
        rw [List.concat_eq_append, index_last, slice_inner, checksum_eq, ok_bind, List.getLast?_concat, dropLast_drop]
        simp only [ne_eq, Py.u8_eq_u8, decide_eq_true_eq, ite_not]
        rfl
      done)
  | rfl

/-! ### Command.tobytes -/
/-- **tie.** What `Command.tobytes` hands to `Frame.tobytes`: data, message id, CRC-8 over both - for every payload and id. -/
theorem commandPayload_eq (data : Bytes) (id : UInt8) :
    Codec.commandPayload data (id.toNat : Int) = .ok (data ++ [id] ++ [Model.crc8 (data ++ [id])]) := by
  first
  | (
      unfold Codec.commandPayload
      have e : Py.ints data ++ [(id.toNat : Int)] = Py.ints (data ++ [id]) := by rw [ints_append]; rfl
      rw [e, crc8Calculate_eq]
      refine bytesOf_ok ?_
      simp only [List.map_append, List.map_cons, List.map_nil, Py.ints]
      done)
  | (unfold Codec.commandPayload; simp [Nat.toUInt8_eq])

/-- **tie.** The whole of `Command.tobytes` (payload, message id, CRC-8, header, checksum) as translated = the model's
    `commandToBytes`, for every frame type, message id and payload. -/
theorem commandToBytes_eq (ft id : UInt8) (data : Bytes) :
    (Codec.commandPayload data (id.toNat : Int) >>= fun p => Codec.frameTobytes ((devTypeAC).toNat : Int) 0 (ft.toNat : Int) p)
      = commandToBytes ft id data := by
  rw [commandPayload_eq, ok_bind, frameTobytes_eq]; rfl

/-! ### AirConditioner.apply (the part before the first await) -/

/-- the translated prefix of `AirConditioner.apply()` (everything up to the first await: the attribute -> command field
    mapping) on the attribute values of a device object -/
def applyCode (d : Dev) : Codec.ApplyCmd :=
  Codec.applyCommand d.beep d.power d.tempCenti (d.mode : Int) d.fan (d.swing : Int) d.eco d.turbo d.freeze d.sleep
    d.fahrenheit d.followMe d.purifier (d.humidity.map (fun (n : Nat) => (n : Int))) (d.auxMode : Int)

/-- **tie.** For EVERY device object state, the `SetStateCommand` fields the translated `apply()` assigns are the model's
    `setStateOfDev` (unknown freeze protection / target humidity replaced by their defaults, aux mode split in two flags). -/
theorem applyCommand_eq (d : Dev) : applyCode d = Codec.ApplyCmd.ofModel (setStateOfDev d) := by
  first
  | (
      unfold applyCode Codec.applyCommand Codec.ApplyCmd.ofModel setStateOfDev
      have h1 : ((d.humidity.map (fun (n : Nat) => (n : Int))).getD 40) = ((d.humidity.getD 40 : Nat) : Int) := by
        cases d.humidity <;> rfl
      simp (disch := decide) only [h1, Py.natCast_eq_int, Py.int_eq_natCast, Int.reduceToNat]
      done)
  | (
     unfold applyCode Codec.applyCommand
     simp only [Int.toNat_natCast, Option.map_map]
     have : (Option.map (Int.toNat ∘ fun (n : Nat) => (n : Int)) d.humidity) = d.humidity := by
       cases d.humidity <;> simp
     rw [this]
     cases d; rfl)

/-- `apply()` as translated followed by `SetStateCommand.tobytes` as translated (`force_aux_heat` keeps the constructor's
    default `False`: `apply()` never assigns it) -/
def applyThenTobytes (d : Dev) : R Bytes :=
  Codec.setStateBody (applyCode d).beep_on (applyCode d).power_on (applyCode d).target_temperature (applyCode d).operational_mode
    (applyCode d).fan_speed (applyCode d).eco (applyCode d).swing_mode (applyCode d).turbo (applyCode d).fahrenheit (applyCode d).sleep
    (applyCode d).freeze_protection (applyCode d).follow_me (applyCode d).purifier (applyCode d).target_humidity (applyCode d).aux_heat
    false (applyCode d).independent_aux_heat

/-- **tie.** attribute mapping of `apply()` composed with `SetStateCommand.tobytes`, both as translated, = the model's
    body for the model's command record - for every device object state. -/
theorem applyThenTobytes_eq (d : Dev) : applyThenTobytes d = setStateBody (setStateOfDev d) := by
  unfold applyThenTobytes
  rw [applyCommand_eq]
  have := setStateBody_eq (setStateOfDev d)
  unfold setStateCode at this
  simpa [Codec.ApplyCmd.ofModel, setStateOfDev] using this

/-! ### Response.validate -/

theorem slice_init (l : Bytes) (x : UInt8) :
    Py.slice (Py.ints (l ++ [x])) none (some (-1)) = Py.ints l := by
  rw [Py.slice_take_negI _ _ (by decide), ints_length, ints_append]
  simp [Py.ints]

/-- **tie.** `Response.validate` as translated = the model's, for every payload (IndexError on the empty one). -/
theorem responseValidate_eq (payload : Bytes) : Codec.responseValidate payload = Model.respValidate payload := by
  first
  | (
      unfold Codec.responseValidate Model.respValidate
      cases List.eq_nil_or_concat payload with
      | inl h => subst h; rfl
      | inr h =>
        obtain ⟨l, x, h⟩ := h
        subst h
        rw [List.concat_eq_append, index_last, slice_init, checksum_eq, crc8Calculate_eq, ok_bind, List.getLast?_concat,
          List.dropLast_concat]
        -- `and_comm`: the two tests in whichever order the translator sorted them
        simp only [ne_eq, Py.u8_eq_u8, Bool.and_eq_true, decide_eq_true_eq, and_comm]
        rfl
      done)
  | rfl

/-! ### Command._next_message_id -/

theorem u8_mod (n : Nat) : ((n % 256).toUInt8).toNat = n % 256 := Lemmas.u8_mod n

/-- **tie.** `Command._next_message_id` as translated = the model's, for every value the class-level counter can have
    (it starts at 0 and is only ever incremented). -/
theorem nextMessageId_eq (c : Nat) :
    Codec.nextMessageId (c : Int) = ((((Model.nextMessageId c).2.toNat : Nat) : Int), (((Model.nextMessageId c).1 : Nat) : Int)) := by
  first
  | (
      unfold Codec.nextMessageId Model.nextMessageId
      rw [band_255, u8_mod]
      congr 1 <;> omega
      done)
  | simp [Codec.nextMessageId]

/-! ### HumidityResponse._parse -/
/-- **tie.** `HumidityResponse._parse` as translated = the model's, for every payload (IndexError below 5 bytes). -/
theorem parseHumidity_eq (p : Bytes) :
    Codec.parseHumidity p = (Model.parseHumidity p).map (fun o => o.map (fun n => (n : Int))) := by
  first
  | (
      unfold Codec.parseHumidity Model.parseHumidity
      rw [Py.idxI_bind]
      cases Py.idx p 4 with
      | error e => rfl
      | ok x =>
        simp only [ok_bind, ne_eq, Py.int_eq_u8, Py.u8_eq_int, Int.reduceLE, Int.reduceLT, true_and, Int.toNat_zero,
          UInt8.reduceOfNat, decide_eq_true_eq]
        by_cases h : x = 0 <;> simp [h, Except.map, pure, Except.pure]
      done)
  | rfl

/-! ### AirConditioner._update_state (StateResponse arm) -/

theorem enumGetI_nat (e : List (String × Nat)) (d n : Nat) :
    Py.enumGetI e d (n : Int) = ((enumGet e d n : Nat) : Int) := by
  unfold Py.enumGetI enumGet enumValues
  rw [decide_eq_true (Int.natCast_nonneg n), Int.toNat_natCast, Bool.true_and]
  split <;> rfl

theorem toModel_ofModel (st : StateResp) : Codec.StateAttrs.toModel (Codec.StateAttrs.ofModel st) = st := by
  simp only [Codec.StateAttrs.toModel, Codec.StateAttrs.ofModel, Int.toNat_natCast, Option.map_map]
  have h1 : ∀ o : Option Int, Option.map ((fun x => x / 10) ∘ fun x => x * 10) o = o := by
    intro o; cases o <;> simp [Function.comp]
  have h2 : ∀ o : Option Nat, Option.map (Int.toNat ∘ fun (n : Nat) => (n : Int)) o = o := by
    intro o; cases o <;> simp [Function.comp]
  rw [h1, h1, h2]

/-- **tie.** The `StateResponse` arm of `AirConditioner._update_state` as translated = the model's `updateFromState` (on the
    attributes it assigns), for every decoded state and both values of `supports_custom_fan_speed`. -/
theorem updateState_eq (sup : Bool) (st : StateResp) :
    Codec.updateState sup st.power st.tempCenti (st.mode : Int) (st.fan : Int) (st.swing : Int) st.turbo st.eco st.sleep st.fahrenheit
        (st.indoor.map (· * 10)) (st.outdoor.map (· * 10)) st.filterAlert st.displayOn st.freeze st.followMe st.purifier
        (st.humidity.map (fun (n : Nat) => (n : Int))) st.auxHeat st.indepAuxHeat
      = Codec.UpdAttrs.ofModel sup st := by
  first
  | (
      unfold Codec.updateState Codec.UpdAttrs.ofModel Codec.UpdAttrs.ofDev Dev.updateFromState
      simp only [enumGetI_nat]
      cases sup <;> cases st.indepAuxHeat <;> cases st.auxHeat <;> simp
      done)
  | (unfold Codec.updateState
     show Codec.UpdAttrs.ofModel sup (Codec.StateAttrs.toModel (Codec.StateAttrs.ofModel st)) = _
     rw [toModel_ofModel])

/-- the translated `_update_state` applied to a record of response attributes -/
def updateOfAttrs (sup : Bool) (a : Codec.StateAttrs) : Codec.UpdAttrs :=
  Codec.updateState sup a.power_on a.target_temperature a.operational_mode a.fan_speed a.swing_mode a.turbo a.eco a.sleep a.fahrenheit
    a.indoor_temperature a.outdoor_temperature a.filter_alert a.display_on a.freeze_protection a.follow_me a.purifier
    a.target_humidity a.aux_heat a.independent_aux_heat

theorem updateOfAttrs_ofModel (sup : Bool) (st : StateResp) :
    updateOfAttrs sup (Codec.StateAttrs.ofModel st) = Codec.UpdAttrs.ofModel sup st := updateState_eq sup st

end Msmart.CodecEq
