/-
  The retry loop of `LAN.send` against a peer that stays silent for some transmissions and then
  answers one promptly: exactly how many transmissions happen and what comes back.
-/
import Msmart.Lemmas.SessionTrace

namespace Msmart.Lemmas.Sess
open Msmart.Model Msmart.Model.Session

/-- what `LAN._read` makes of a queued item on a connection with this protocol class and key -/
def decodeWith (v3 : Bool) (key : Option Bytes) (raw : Bytes) : R Bytes :=
  if v3 then
    match processPacket key raw with
    | .error e => .error e
    | .ok p => packetDecode p
  else packetDecode raw

theorem decodeRead_eq {s : S} {c : Conn} (hc : s.l.conn = some c) (raw : Bytes) :
    decodeRead s raw = decodeWith c.core.v3 c.core.localKey raw := by
  have hv : isV3 s = c.core.v3 := by rw [isV3, hc]
  have hk : curKey s = c.core.localKey := by rw [curKey, hc]
  rw [decodeRead, hv, hk]; rfl

/-- what a received segment adds to the queue of a connection (V3: the reassembly; V2: the segment) -/
def segQueue (v3 : Bool) (buffer b : Bytes) : List Bytes := if v3 then (parseLoop (buffer ++ b)).1 else [b]

/-! ### the read await, one step at a time -/

theorem awaitQueue_head {s : S} {pkt : Bytes} (fuel d : Nat) (h : queueHead s = some pkt) :
    awaitQueue (fuel + 1) s d = (.packet pkt, popQueue s) := by
  rw [awaitQueue, h]

theorem awaitQueue_quiet {s : S} (fuel d : Nat) (hq : queueHead s = none) (hp : s.w.pending = [])
    (hnc : s.w.cancelAt = none) : awaitQueue (fuel + 1) s d = (.timeout, setNow s d) := by
  simp [awaitQueue, hq, hp, nextDue, cancelDue, hnc]

theorem awaitQueue_deliver {s : S} {e : Timed} (fuel d : Nat) (hq : queueHead s = none)
    (he : nextDue s.w.pending d = some e) (hnc : s.w.cancelAt = none) :
    awaitQueue (fuel + 1) s d = awaitQueue fuel (deliverDue s e) d := by
  simp [awaitQueue, hq, he, cancelDue, hnc]

theorem applyEvent_open {c : Conn} (ev : PeerEvent) (h : c.closing = false) :
    applyEvent ev c = match ev with
      | .close => { c with closing := true }
      | .data b => { c with queue := c.queue ++ segQueue c.core.v3 c.buffer b,
                            buffer := if c.core.v3 then (parseLoop (c.buffer ++ b)).2 else c.buffer } := by
  unfold applyEvent segQueue
  rw [if_neg (by simp [h])]
  split
  · rfl
  · split <;> rfl

/-- waiting on a connection with an empty queue while the peer's only pending event, for this connection,
    is due: the event is applied; the read returns the first item it queued, or times out -/
theorem awaitQueue_single {s : S} {c : Conn} {t d : Nat} {ev : PeerEvent} (hc : s.l.conn = some c) (hq : c.queue = [])
    (hp : s.w.pending = [⟨t, c.core.cid, ev⟩]) (ht : t ≤ d) (hnc : s.w.cancelAt = none) :
    awaitQueue (s.w.pending.length + 1) s d =
      match (applyEvent ev c).queue with
      | pkt :: rest =>
        (.packet pkt, { w := { s.w with now := max s.w.now t, pending := [] },
                        l := { s.l with conn := some { applyEvent ev c with queue := rest } } })
      | [] =>
        (.timeout, { w := { s.w with now := max (max s.w.now t) d, pending := [] },
                     l := { s.l with conn := some (applyEvent ev c) } }) := by
  have hd : deliverDue s ⟨t, c.core.cid, ev⟩ =
      { w := { s.w with now := max s.w.now t, pending := [] }, l := { s.l with conn := some (applyEvent ev c) } } := by
    simp [deliverDue, softConn, hc, hp, removeFirst]
    rw [← applyEvent_core ev c]
  rw [awaitQueue_deliver (e := ⟨t, c.core.cid, ev⟩) _ _ (by simp [queueHead, hc, hq]) (by simp [hp, nextDue, ht]) hnc, hd, hp]
  show awaitQueue (0 + 1) _ d = _
  cases hq' : (applyEvent ev c).queue with
  | nil => exact awaitQueue_quiet _ _ (by simp [queueHead, hq']) rfl hnc
  | cons pkt rest =>
    refine (awaitQueue_head _ _ (pkt := pkt) (by simp [queueHead, hq'])).trans ?_
    simp [popQueue, softConn, hq']

/-! ### transmissions from a ready state -/

/-- a connected, idle session on a quiet network -/
structure Ready (s : S) (c : Conn) : Prop where
  conn : s.l.conn = some c
  open_ : c.closing = false
  queue : c.queue = []
  quiet : s.w.pending = []
  key : c.core.v3 = true → ∃ k, c.core.localKey = some k
  unarmed : s.w.cancelAt = none

/-- the connection after one more write -/
def wrote (c : Conn) : Conn :=
  { c with core := if c.core.v3 then bump c.core else { c.core with nWrites := c.core.nWrites + 1 } }

theorem wrote_v3 (c : Conn) : (wrote c).core.v3 = c.core.v3 := by unfold wrote; split <;> simp [bump]
theorem wrote_key (c : Conn) : (wrote c).core.localKey = c.core.localKey := by unfold wrote; split <;> simp [bump]
theorem wrote_nWrites (c : Conn) : (wrote c).core.nWrites = c.core.nWrites + 1 := by unfold wrote; split <;> simp [bump]
theorem wrote_cid (c : Conn) : (wrote c).core.cid = c.core.cid := by unfold wrote; split <;> simp [bump]

theorem opWrite_ready {rx : Reactions} {s : S} {c : Conn} (frame : Bytes) (h : Ready s c) :
    ∃ ev s1, DataOf frame ev ∧ opWrite rx s frame = .ok s1 ∧ s1 =
      { w := { s.w with log := s.w.log ++ [(s.w.now, ev)],
                        pending := (rx c.core.cid c.core.nWrites).map fun r => ⟨s.w.now + r.1, c.core.cid, r.2⟩ },
        l := { s.l with conn := some (wrote c) } } := by
  cases hv : c.core.v3 with
  | true =>
    obtain ⟨k, hk⟩ := h.key hv
    refine ⟨.wrData c.core.cid c.core.packetId k frame, _, .inl ⟨_, _, _, rfl⟩, ?_, rfl⟩
    simp [opWrite, isV3, h.conn, hv, opWriteData, hk, h.open_, react, setCore, logEv, h.quiet, wrote]
  | false =>
    refine ⟨.wrV2 c.core.cid frame, _, .inr ⟨_, rfl⟩, ?_, rfl⟩
    simp [opWrite, isV3, h.conn, hv, opWriteV2, h.open_, react, setCore, logEv, h.quiet, wrote]

/-- a silent transmission: the read times out; the loop goes on from a ready state one timeout later,
    or gives up and drops the connection -/
theorem sendLoop_silent {p : Params} {rx : Reactions} {s : S} {c : Conn} (frame : Bytes) (h : Ready s c)
    (hrx : rx c.core.cid c.core.nWrites = []) :
    ∃ s2, Ready s2 (wrote c) ∧ nData (evsOf s2) = nData (evsOf s) + 1 ∧
      ∀ n acc, sendLoop p rx frame (n + 1) s acc =
        if n + 1 > 1 then sendLoop p rx frame n s2 acc else (.error .timeout, opDisconnect s2) := by
  obtain ⟨ev, s1, hev, hw, hs1⟩ := opWrite_ready (rx := rx) frame h
  rw [hrx] at hs1
  refine ⟨setNow s1 (s1.w.now + p.readTimeout), ?_, ?_, fun n acc => ?_⟩
  · subst hs1
    exact ⟨rfl, h.open_, h.queue, rfl, by rw [wrote_v3, wrote_key]; exact h.key, h.unarmed⟩
  · simp [hs1, evsOf, setNow, nData, hev.isData]
  · rw [sendLoop, hw]
    simp only
    rw [awaitQueue_quiet _ _ (by simp [hs1, queueHead, wrote, h.queue]) (by rw [hs1]; rfl) (by rw [hs1]; exact h.unarmed)]

/-- an answered transmission: the segment arrives within the read timeout, the first item it queues is
    what the read returns and the loop ends with -/
theorem sendLoop_answered {p : Params} {rx : Reactions} {s : S} {c : Conn} (frame : Bytes) (h : Ready s c)
    {d : Nat} {b pkt f : Bytes} {rest : List Bytes} (hrx : rx c.core.cid c.core.nWrites = [(d, .data b)])
    (hd : d ≤ p.readTimeout) (hseg : segQueue c.core.v3 c.buffer b = pkt :: rest)
    (hdec : decodeWith c.core.v3 c.core.localKey pkt = .ok f) :
    ∃ s2 c2, (∀ n acc, sendLoop p rx frame (n + 1) s acc = (.ok (acc ++ [f]), s2)) ∧
      nData (evsOf s2) = nData (evsOf s) + 1 ∧ s2.l.conn = some c2 ∧ c2.queue = rest := by
  obtain ⟨ev, s1, hev, hw, hs1⟩ := opWrite_ready (rx := rx) frame h
  rw [hrx] at hs1
  have hq : (applyEvent (.data b) (wrote c)).queue = pkt :: rest := by
    rw [applyEvent_open _ (show (wrote c).closing = false from h.open_), wrote_v3]
    simp [wrote, h.queue, hseg]
  have ha := awaitQueue_single (s := s1) (c := wrote c) (t := s.w.now + d) (d := s1.w.now + p.readTimeout) (ev := .data b)
    (by rw [hs1]) h.queue (by rw [hs1, wrote_cid]; rfl) (by rw [hs1]; exact Nat.add_le_add_left hd _) (by rw [hs1]; exact h.unarmed)
  simp only [hq] at ha
  refine ⟨(awaitQueue (s1.w.pending.length + 1) s1 (s1.w.now + p.readTimeout)).2,
    { applyEvent (.data b) (wrote c) with queue := rest }, fun n acc => ?_, ?_, by rw [ha], rfl⟩
  · rw [sendLoop, hw]
    simp only
    rw [ha]
    simp only
    rw [decodeRead_eq rfl]
    simp only [applyEvent_core, wrote_v3, wrote_key, hdec]
  · rw [ha]
    simp [hs1, evsOf, nData, hev.isData]

/-- the first `k` transmissions from here on are not answered -/
def SilentFor (rx : Reactions) (c : Conn) (k : Nat) : Prop := ∀ i, i < k → rx c.core.cid (c.core.nWrites + i) = []

theorem silentFor_wrote {rx : Reactions} {c : Conn} {k : Nat} (h : SilentFor rx c (k + 1)) : SilentFor rx (wrote c) k := by
  intro i hi
  rw [wrote_cid, wrote_nWrites, Nat.add_assoc, Nat.add_comm 1]
  exact h (i + 1) (Nat.succ_lt_succ hi)

/-- **retransmission stops as soon as a response arrives.** If the first `k` transmissions are not
    answered and the next one is answered within the read timeout by a segment whose first queued
    item decodes to `f`, the loop returns `f` after exactly `k + 1` transmissions (for any budget
    `n > k`). -/
theorem sendLoop_answered_at {p : Params} {rx : Reactions} {frame : Bytes} (k : Nat) :
    ∀ (n : Nat) (s : S) (c : Conn) (acc : List Bytes), k < n → Ready s c → SilentFor rx c k →
    ∀ (d : Nat) (b pkt f : Bytes) (rest : List Bytes),
      rx c.core.cid (c.core.nWrites + k) = [(d, .data b)] → d ≤ p.readTimeout →
      segQueue c.core.v3 c.buffer b = pkt :: rest → decodeWith c.core.v3 c.core.localKey pkt = .ok f →
      ∃ s' c', sendLoop p rx frame n s acc = (.ok (acc ++ [f]), s') ∧ nData (evsOf s') = nData (evsOf s) + (k + 1) ∧
        s'.l.conn = some c' ∧ c'.queue = rest := by
  induction k with
  | zero =>
    intro n s c acc hk h _ d b pkt f rest hrx hd hseg hdec
    obtain ⟨n', rfl⟩ := Nat.exists_eq_add_one.2 hk
    obtain ⟨s2, c2, hl, hn, hc2⟩ := sendLoop_answered (p := p) frame h hrx hd hseg hdec
    exact ⟨s2, c2, hl n' acc, hn, hc2⟩
  | succ k ih =>
    intro n s c acc hk h hsil d b pkt f rest hrx hd hseg hdec
    obtain ⟨n', rfl⟩ := Nat.exists_eq_add_one.2 (Nat.zero_lt_of_lt hk)
    obtain ⟨s2, hr2, hn, hl⟩ := sendLoop_silent (p := p) frame h (hsil 0 (Nat.succ_pos _))
    obtain ⟨s', c', hs', hn', hc'⟩ := ih n' s2 (wrote c) acc (Nat.lt_of_succ_lt_succ hk) hr2 (silentFor_wrote hsil) d b pkt f rest
      (by rw [wrote_cid, wrote_nWrites, Nat.add_assoc, Nat.add_comm 1]; exact hrx)
      hd (by rw [wrote_v3]; exact hseg) (by rw [wrote_v3, wrote_key]; exact hdec)
    exact ⟨s', c', by rw [hl, if_pos (by omega)]; exact hs', by rw [hn', hn]; omega, hc'⟩

theorem nData_evsOf_opDisconnect (s : S) : nData (evsOf (opDisconnect s)) = nData (evsOf s) := by
  cases h : s.l.conn <;> simp [evsOf, nData, isData, h]

/-- **exhausting the retries.** If none of the `n ≥ 1` transmissions is answered, exactly `n` are made,
    the call fails with a timeout and the connection is dropped. -/
theorem sendLoop_all_silent {p : Params} {rx : Reactions} {frame : Bytes} (n : Nat) :
    ∀ (s : S) (c : Conn) (acc : List Bytes), Ready s c → SilentFor rx c (n + 1) →
      ∃ s', sendLoop p rx frame (n + 1) s acc = (.error .timeout, s') ∧
        nData (evsOf s') = nData (evsOf s) + (n + 1) ∧ s'.l.conn = none := by
  induction n with
  | zero =>
    intro s c acc h hsil
    obtain ⟨s2, _, hn, hl⟩ := sendLoop_silent (p := p) frame h (hsil 0 (Nat.succ_pos _))
    exact ⟨opDisconnect s2, by rw [hl, if_neg (by omega)], by rw [nData_evsOf_opDisconnect, hn], by simp⟩
  | succ n ih =>
    intro s c acc h hsil
    obtain ⟨s2, hr2, hn, hl⟩ := sendLoop_silent (p := p) frame h (hsil 0 (Nat.succ_pos _))
    obtain ⟨s', hs', hn', hc'⟩ := ih s2 (wrote c) acc hr2 (silentFor_wrote hsil)
    exact ⟨s', by rw [hl, if_pos (by omega)]; exact hs', by rw [hn', hn]; omega, hc'⟩

end Msmart.Lemmas.Sess
