/-
  Lemmas for the V3 packet codec: what `_process_packet`, `_decode_encrypted_response` and `_get_local_key` do on a
  packet given by its parts, and the parts of what the independent encoder (`Spec/V3Spec.lean`) emits.
-/
import Msmart.Model.PacketV3
import Msmart.Spec.V3Spec
import Msmart.Lemmas.V2

namespace Msmart.Lemmas
open Msmart.Model Msmart.Crypto

theorem pad_eq (n : Nat) : v3Pad n = Spec.V3.padOf n := by
  unfold v3Pad Spec.V3.padOf; split <;> omega

theorem padOf_lt (n : Nat) : Spec.V3.padOf n < 16 := by unfold Spec.V3.padOf; omega

theorem padOf_aligned (n : Nat) : (2 + n + Spec.V3.padOf n) % 16 = 0 := by unfold Spec.V3.padOf; omega

theorem toBE2 (n : Nat) : Py.toBE 2 n = Spec.V3.be16 n := by
  simp [Py.toBE, Py.toLE, Spec.V3.be16]

theorem unbe16_be16 (n : Nat) (h : n < 65536) : Spec.V3.unbe16 (Spec.V3.be16 n) = n := by
  simp only [Spec.V3.unbe16, Spec.V3.be16, List.getD_cons_zero, List.getD_cons_succ]
  rw [u8nat _ (by omega), u8nat _ (by omega)]; omega

theorem iv_eq : zeroIv = Spec.V3.iv := rfl

/-- the header of the independent encoder, byte by byte, in front of anything -/
theorem header_append (s p t : Nat) (R : Bytes) :
    Spec.V3.header s p t ++ R =
      0x83 :: 0x70 :: (s / 256 % 256).toUInt8 :: (s % 256).toUInt8 :: 0x20 :: (p * 16 + t).toUInt8 :: R := rfl

theorem header_len (s p t : Nat) : (Spec.V3.header s p t).length = 6 := rfl

/-- pad and type share the sixth byte -/
theorem padType (p t : Nat) (hp : p < 16) (ht : t < 16) :
    ((p * 16 + t).toUInt8).toNat / 16 = p ∧ ((p * 16 + t).toUInt8).toNat % 16 = t := by
  rw [u8nat _ (by omega)]; omega

/-- with marker and magic byte in place `_process_packet` dispatches on the type nibble -/
theorem processPacket_of_header (key : Option Bytes) (p : Bytes) (b5 : UInt8) (h2 : p.take 2 = [0x83, 0x70])
    (h4 : p[4]? = some 0x20) (h5 : p[5]? = some b5) :
    processPacket key p =
      if b5.toNat % 16 = ptEncryptedResponse then decodeEncryptedResponse key p
      else if b5.toNat % 16 = ptHandshakeResponse then .ok (decodeHandshakeResponse p)
      else .error .protocol := by
  unfold processPacket
  rw [if_neg (by rw [h2]; simp), h4]
  simp only [ne_eq, not_true_eq_false, ↓reduceIte, h5]

/-- `_decode_encrypted_response` on any packet that has its sixth byte: alignment and tag decide -/
theorem decodeEncryptedResponse_eq (k pkt : Bytes) (b5 : UInt8) (h5 : pkt[5]? = some b5) :
    decodeEncryptedResponse (some k) pkt =
      if ((pkt.take (pkt.length - 32)).drop 6).length % 16 = 0 ∧
          SHA256.sha256 (pkt.take 6 ++ AES.cbcDecrypt k zeroIv ((pkt.take (pkt.length - 32)).drop 6)) =
            pkt.drop (pkt.length - 32)
      then .ok (stripCounterPad (AES.cbcDecrypt k zeroIv ((pkt.take (pkt.length - 32)).drop 6)) (b5.toNat / 16))
      else .error .protocol := by
  have h5' : (pkt.take 6)[5]? = some b5 := by rw [List.getElem?_take, if_pos (by decide), h5]
  unfold decodeEncryptedResponse decryptCbc
  by_cases hal : ((pkt.take (pkt.length - 32)).drop 6).length % 16 = 0
  · simp only [hal, ne_eq, not_true_eq_false, ↓reduceIte, true_and, ite_not, h5']
  · simp only [hal, ne_eq, not_false_eq_true, ↓reduceIte, false_and]

/-- `_process_packet` on an encrypted response given as header(6) ++ ciphertext ++ tag(32) -/
theorem processPacket_layout (key H CT T : Bytes) (hH : H.length = 6) (hT : T.length = 32)
    (h2 : H.take 2 = [0x83, 0x70]) (h4 : H[4]? = some 0x20) (b5 : UInt8) (h5 : H[5]? = some b5)
    (ht : b5.toNat % 16 = ptEncryptedResponse) :
    processPacket (some key) ((H ++ CT) ++ T) =
      if CT.length % 16 = 0 ∧ SHA256.sha256 (H ++ AES.cbcDecrypt key zeroIv CT) = T
      then .ok (stripCounterPad (AES.cbcDecrypt key zeroIv CT) (b5.toNat / 16)) else .error .protocol := by
  have h5' : ((H ++ CT) ++ T)[5]? = some b5 := by rw [List.append_assoc, List.getElem?_append_left (by omega), h5]
  rw [processPacket_of_header (some key) _ b5
      (by rw [List.append_assoc, List.take_append_of_le_length (by omega), h2])
      (by rw [List.append_assoc, List.getElem?_append_left (by omega), h4]) h5',
    if_pos ht, decodeEncryptedResponse_eq key _ b5 h5', take_sub_right _ _ hT, drop_sub_right _ _ hT,
    List.drop_left' hH, List.append_assoc, List.take_left' hH]

theorem strip_plain (c data padBytes : Bytes) (hc : c.length = 2) :
    stripCounterPad (c ++ data ++ padBytes) padBytes.length = data := by
  unfold stripCounterPad; rw [take_sub_right _ _ rfl, List.drop_left' hc]

/-- on a reply of the right length, encrypted nonce(32) ++ proof(32) -/
theorem getLocalKey_append (key ct h : Bytes) (hc : ct.length = 32) (hh : h.length = 32) :
    getLocalKey key (ct ++ h) =
      if SHA256.sha256 (AES.cbcDecrypt key zeroIv ct) = h then
        if key.length = 32 then .ok (Py.xorBytes (AES.cbcDecrypt key zeroIv ct) key) else .error (.py "ValueError")
      else .error .auth := by
  unfold getLocalKey decryptCbc
  rw [if_neg (by simp [hc, hh]), List.take_left' hc, List.drop_left' hc, if_neg (by rw [hc]; decide)]
  simp only [AES.cbcDecrypt_length, hc, ne_eq, ite_not, eq_comm (a := 32)]

theorem getLocalKey_bad_length (key data : Bytes) (h : data.length ≠ 64) : getLocalKey key data = .error .auth := by
  unfold getLocalKey; rw [if_pos h]

end Msmart.Lemmas
