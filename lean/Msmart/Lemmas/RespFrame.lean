/-
  What `Response.construct` does with a frame built by the device-side `Spec.respFrame`.
-/
import Msmart.Lemmas.Crc
import Msmart.Lemmas.Contained
import Msmart.Spec.DeviceSpec

namespace Msmart.Lemmas
open Msmart.Model

/-- the class dispatch expressed on the payload -/
def classOfPayload (ft : UInt8) (p : Bytes) : R RespClass := do
  let rid ← Py.idx p 0
  if rid = 0xC0 then pure .state
  else if rid = 0xB5 ∧ ft = ftQuery then pure .caps
  else if rid = 0xB1 ∨ rid = 0xB0 then pure .props
  else if rid = 0xC1 then do
    let g ← Py.idx (p ++ [0, 0]) 3          -- frame[13]: payload[3], or check / checksum byte position
    if g &&& 0xF = 4 then pure .energy
    else if g &&& 0xF = 5 then pure .humidity
    else pure .base
  else pure .base

theorem frameValidate_snoc (s cs : UInt8) (rest : Bytes) :
    frameValidate (s :: (rest ++ [cs])) =
      if checksum rest = cs then .ok () else .error .invalidFrame := by
  rw [frameValidate, ← List.cons_append, List.getLast?_concat, List.cons_append, List.drop_succ_cons, List.drop_zero,
    List.dropLast_concat]

theorem respFrame_valid (ft proto : UInt8) (style : Spec.CheckStyle) (p : Bytes) :
    frameValidate (Spec.respFrame ft proto style p) = .ok () := by
  rw [Spec.respFrame, frameValidate, List.getLast?_concat, List.drop_append_of_le_length (by simp), List.dropLast_concat]
  exact if_pos rfl

theorem respFrame_drop10 (ft proto : UInt8) (style : Spec.CheckStyle) (p : Bytes) :
    (Spec.respFrame ft proto style p).drop 10 =
      p ++ [Spec.bodyCheck style p] ++ [Spec.frameChecksum ([(p.length + 11).toUInt8, 0xAC, 0, 0, 0, 0, 0, proto, ft] ++ p ++ [Spec.bodyCheck style p])] := by
  simp [Spec.respFrame]

theorem respFrame_payload (ft proto : UInt8) (style : Spec.CheckStyle) (p : Bytes) :
    (((Spec.respFrame ft proto style p).drop 10).dropLast).dropLast = p := by
  rw [respFrame_drop10, List.dropLast_concat, List.dropLast_concat]

theorem respValidate_concat (body : Bytes) (c : UInt8) :
    respValidate (body ++ [c]) =
      if crc8 body ≠ c ∧ checksum body ≠ c then .error .invalidResponse else .ok () := by
  rw [respValidate, List.getLast?_concat, List.dropLast_concat]

theorem respValidate_bodyCheck (style : Spec.CheckStyle) (p : Bytes) :
    respValidate (p ++ [Spec.bodyCheck style p]) = .ok () := by
  rw [respValidate_concat, if_neg]
  cases style
  · exact fun h => h.1 (crc8_eq_spec p)
  · exact fun h => h.2 rfl

theorem validateUnlessProps_respFrame (cls : RespClass) (ft proto : UInt8) (style : Spec.CheckStyle) (p : Bytes) :
    validateUnlessProps cls (Spec.respFrame ft proto style p) = .ok () := by
  unfold validateUnlessProps
  split
  · rw [respFrame_drop10, List.dropLast_concat]; exact respValidate_bodyCheck style p
  · rfl

theorem respFrame_idx9 (ft proto : UInt8) (style : Spec.CheckStyle) (p : Bytes) :
    Py.idx (Spec.respFrame ft proto style p) 9 = .ok ft := by
  simp [Spec.respFrame, Py.idx]

theorem respClass_respFrame (ft proto : UInt8) (style : Spec.CheckStyle) (p : Bytes) (hp : 4 ≤ p.length) :
    respClass (Spec.respFrame ft proto style p) = classOfPayload ft p := by
  obtain ⟨a, b, c, d, t, rfl⟩ : ∃ a b c d t, p = a :: b :: c :: d :: t := by
    match p, hp with
    | a :: b :: c :: d :: t, _ => exact ⟨a, b, c, d, t, rfl⟩
  simp [respClass, classOfPayload, Spec.respFrame, Py.idx, bind, Except.bind]

/-- **construct on a device-built frame.** For every payload of at least 4 bytes (shorter ones
    cannot name a group) in either check style, the library decodes a spec-built frame by
    dispatching on the payload and parsing exactly the payload. -/
theorem constructInner_respFrame (ft proto : UInt8) (style : Spec.CheckStyle) (p : Bytes) (hp : 4 ≤ p.length) :
    constructInner (Spec.respFrame ft proto style p) =
      (classOfPayload ft p >>= fun cls => Py.idx p 0 >>= fun id => buildResp cls id p) := by
  simp only [constructInner, respFrame_valid, respClass_respFrame _ _ _ _ hp, validateUnlessProps_respFrame,
    respFrame_payload]
  rfl

end Msmart.Lemmas
