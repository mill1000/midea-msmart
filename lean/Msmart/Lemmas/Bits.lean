/-
  Fields packed into a byte.  Both directions of the application protocol build a byte as flags `flag b m` and small
  numbers joined by `|||` and read it back with `bit · m`, `· &&& mask`, `· >>> k`.  Reading distributes over `|||`
  (`and_or`, `bit_or`), a flag answers only to its own mask (`bit_flag`: the masks are literals, so `simp` with
  `decide := true` settles `v &&& m ≠ 0`), and what is left is about one field.  The device specification spells the
  same two operations `Spec.fl`, `Spec.tb`.
-/
import Msmart.Model.Response
import Msmart.Spec.DeviceSpec

namespace Msmart.Lemmas
open Msmart.Model

theorem and_or (x y m : UInt8) : (x ||| y) &&& m = x &&& m ||| y &&& m :=
  UInt8.toNat_inj.mp (by simp only [UInt8.toNat_and, UInt8.toNat_or, Nat.and_or_distrib_right])

theorem tb_eq_bit : @Spec.tb = @bit := rfl
theorem fl_eq_flag : @Spec.fl = @flag := rfl

theorem bit_or (x y m : UInt8) : bit (x ||| y) m = (bit x m || bit y m) := by
  simp only [bit, and_or, ne_eq, UInt8.or_eq_zero_iff, Classical.not_and_iff_not_or_not, Bool.decide_or]

theorem bit_flag (b : Bool) (v m : UInt8) : bit (flag b v) m = (b && decide (v &&& m ≠ 0)) := by
  cases b <;> simp [bit, flag]

end Msmart.Lemmas
