/-
  Glue: an operation of the device object over the LAN session IS the operation over some reply
  script — the script made of what `Device._send_command` returned for each command.  Hence every
  theorem of the Device model that holds "for every reply script" holds over every peer.
-/
import Msmart.Model.Stack
import Msmart.Props.C09Transport
import Msmart.Props.C14

namespace Msmart.Lemmas.Stack
open Msmart.Model Msmart.Model.Session Msmart.Model.Stack Msmart.Props

theorem sendGetLan_refines {p : Params} {rx : Reactions} {r : Run} {s s1 : S} {c : Cmd} {res} (hg : C09.Good s)
    (h : sendGetLan p rx r s c = (res, s1)) :
    ∃ fs, res = sendGet { r with replies := fs :: r.replies } c ∧ C09.Good s1 := by
  revert h
  fun_cases sendGetLan p rx r s c with
  | case1 e hb => rintro ⟨⟩; exact ⟨[], by rw [C14.sendGet_eq, hb]; rfl, hg⟩
  | case2 frame _ e s1 hd => obtain ⟨⟨fs, hfs⟩, _⟩ := C09.deviceSend_good hg hd; cases hfs
  | case3 frame _ fs s1 hd => rintro ⟨⟩; exact ⟨fs, rfl, (C09.deviceSend_good hg hd).2⟩

theorem sendGet_script_ext (r : Run) (reps reps' : Replies) (c : Cmd) (hh : reps.headD [] = reps'.headD []) :
    (sendGet { r with replies := reps } c).map (fun o => ({ o.1 with replies := [] }, o.2)) =
    (sendGet { r with replies := reps' } c).map (fun o => ({ o.1 with replies := [] }, o.2)) := by
  simp only [C14.sendGet_eq, C14.exchange, C14.nextResps, hh]
  cases (c.toBytes r.counter).1 <;> rfl

/-- **glue (refinement)**: a command sequence sent over the LAN from a good session state is the same
    sequence run on a reply script — the list of what the transport returned, command by command -/
theorem sendAllLan_refines {p : Params} {rx : Reactions} {cs : List Cmd} {r : Run} {s : S} (hg : C09.Good s) :
    ∀ {res s'}, sendAllLan p rx r s cs = (res, s') →
      ∃ script : Replies, res = sendAll { r with replies := script ++ r.replies } cs ∧ C09.Good s' := by
  fun_induction sendAllLan p rx r s cs with
  | case1 r s => rintro _ _ ⟨⟩; exact ⟨[], rfl, hg⟩
  | case2 r s c t e s1 h1 =>
    rintro _ _ ⟨⟩
    obtain ⟨fs, hfs, hg1⟩ := sendGetLan_refines hg h1
    exact ⟨[fs], by rw [sendAll, List.singleton_append, ← hfs]; rfl, hg1⟩
  | case3 r s c t r1 rs1 s1 h1 _ s2 h2 ih | case4 r s c t r1 rs1 s1 h1 _ _ s2 h2 ih =>
    rintro _ _ ⟨⟩
    obtain ⟨fs, hfs, hg1⟩ := sendGetLan_refines hg h1
    obtain ⟨script, hs, hg2⟩ := ih hg1 h2
    exact ⟨fs :: script, by rw [C14.sendAll_cons_script hfs.symm, ← hs]; rfl, hg2⟩

/-- **glue (totality)**: over a good session state and for commands that can be encoded, a sequence of
    commands sent over the LAN never fails, whatever the peer does, and leaves a good session state -/
theorem sendAllLan_total (p : Params) (rx : Reactions) (cs : List Cmd)
    (hcs : ∀ c ∈ cs, ∃ b, c.body = .ok b ∧ b.length ≤ 243) :
    ∀ (r : Run) (s : S), C09.Good s →
      ∃ out, (sendAllLan p rx r s cs).1 = .ok out ∧ C09.Good (sendAllLan p rx r s cs).2 := by
  intro r s hg
  obtain ⟨script, hs, hg'⟩ := sendAllLan_refines hg (Prod.eta _).symm
  exact ⟨_, hs.trans (C14.sendAll_ok cs hcs _), hg'⟩

theorem refreshLan_on_script {p : Params} {rx : Reactions} {r : Run} {s s' : S} {res} (hg : C09.Good s)
    (h : refreshLan p rx r s = (res, s')) :
    ∃ script : Replies, res = refresh { r with replies := script ++ r.replies } ∧ C09.Good s' := by
  revert h
  fun_cases refreshLan p rx r s with
  | case1 _ s1 h1 | case2 _ _ s1 h1 =>
    rintro ⟨⟩
    obtain ⟨script, hs, hg'⟩ := sendAllLan_refines hg h1
    exact ⟨script, by rw [refresh, ← hs]; rfl, hg'⟩

/-- **glue (refresh)**: `refresh()` over the LAN is `refresh()` on the script of what the transport
    returned — so everything proved for every reply script (C13 state preservation, C14 totality, C16
    bookkeeping) holds over every peer -/
theorem refreshLan_refines (p : Params) (rx : Reactions) (r : Run) (s : S) (hg : C09.Good s) :
    ∃ script : Replies, (refreshLan p rx r s).1 = refresh { r with replies := script ++ r.replies } := by
  obtain ⟨script, hs, _⟩ := refreshLan_on_script hg (Prod.eta _).symm
  exact ⟨script, hs⟩

/-- **C09 / C14 composed: `refresh()` over the LAN never raises, for every peer.** From a good session
    state and a device object advertising at most 120 property ids, whatever the peer sends — at the
    transport level (C09) or inside the frames (C14) — `refresh()` returns normally and leaves a good
    session state. -/
theorem refreshLan_total (p : Params) (rx : Reactions) (r : Run) (s : S) (hg : C09.Good s)
    (hp : r.dev.supportedProps.length ≤ 120) :
    ∃ r', (refreshLan p rx r s).1 = .ok r' ∧ C09.Good (refreshLan p rx r s).2 := by
  obtain ⟨script, hs, hg'⟩ := refreshLan_on_script hg (Prod.eta _).symm
  obtain ⟨r', hr'⟩ := C14.refresh_total { r with replies := script ++ r.replies } hp
  exact ⟨r', hs.trans hr', hg'⟩

end Msmart.Lemmas.Stack
