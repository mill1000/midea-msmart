/-! Facts about all 256 bytes at once, and the byte of a number below 256. -/
namespace Msmart

/-- A property of every byte follows from its 256 instances, which `decide +kernel` can check
(`Nat.decidableBallLT`).  As an eliminator, `P` is read off the expected type. -/
@[elab_as_elim]
theorem u8_forall {P : UInt8 → Prop} (h : ∀ n, n < 256 → P n.toUInt8) (b : UInt8) : P b :=
  UInt8.ofNat_toNat (x := b) ▸ h b.toNat b.toNat_lt

namespace Lemmas

theorem u8nat (n : Nat) (h : n < 256) : (n.toUInt8).toNat = n := UInt8.toNat_ofNat_of_lt' h

theorem u8_mod (n : Nat) : ((n % 256).toUInt8).toNat = n % 256 := u8nat _ (Nat.mod_lt _ (by decide))

end Lemmas

end Msmart
