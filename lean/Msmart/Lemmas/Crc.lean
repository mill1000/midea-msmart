/-
  CRC-8 and additive checksum lemmas (against the table generated from /repo/msmart/crc8.py).
-/
import Msmart.Model.Frame
import Msmart.Spec.FrameSpec
import Msmart.Lemmas.U8

namespace Msmart.Lemmas
open Msmart.Model

/-- the generated table is the CRC-8/MAXIM table (all 256 entries, kernel-evaluated) -/
theorem table_is_maxim (b : UInt8) : crcT b = Spec.crcByte b := by
  -- the whole table in one pass: 256 indexed reads of the array cost the kernel seven times as much
  have h : Generated.crc8Table.toList = (List.range 256).map fun n => Spec.crcByte n.toUInt8 := by
    decide +kernel
  rw [crcT, Array.getD_eq_getD_getElem?, ← Array.getElem?_toList, h]
  simp [b.toNat_lt]

theorem crc8_eq_spec (l : Bytes) : crc8 l = Spec.crc8 l := by
  simp only [crc8, Spec.crc8, table_is_maxim]

/-- A CRC bit step can be undone: the polynomial `0x8C` has bit 7 set and the shifted byte has not,
so bit 7 of the result tells whether the polynomial was added, i.e. what the lost bit 0 was. -/
theorem crcBit_inv (c : UInt8) :
    (if Spec.crcBit c &&& 0x80 = 0 then Spec.crcBit c <<< 1
      else (Spec.crcBit c ^^^ 0x8C) <<< 1 ||| 1) = c :=
  u8_forall (by decide +kernel) c

theorem crcBit_inj {a b : UInt8} (h : Spec.crcBit a = Spec.crcBit b) : a = b := by
  rw [← crcBit_inv a, h, crcBit_inv]

/-- the table is a permutation, being eight invertible bit steps -/
theorem crcT_inj {a b : UInt8} (h : crcT a = crcT b) : a = b := by
  rw [table_is_maxim, table_is_maxim] at h
  iterate 8 replace h := crcBit_inj h
  exact h

theorem crcFold_inj (l : Bytes) {c d : UInt8}
    (h : l.foldl (fun c m => crcT (c ^^^ m)) c = l.foldl (fun c m => crcT (c ^^^ m)) d) : c = d := by
  induction l generalizing c d with
  | nil => simpa using h
  | cons m t ih =>
    simp only [List.foldl_cons] at h
    exact (UInt8.xor_left_inj m).mp (crcT_inj (ih h))

/-- single-byte sensitivity of CRC-8: two messages differing in exactly one byte have different CRCs -/
theorem crc_single_byte (a b : Bytes) (x y : UInt8)
    (h : crc8 (a ++ [x] ++ b) = crc8 (a ++ [y] ++ b)) : x = y := by
  unfold crc8 at h
  simp only [List.append_assoc, List.foldl_append, List.foldl_cons,
    List.cons_append, List.nil_append] at h
  exact (UInt8.xor_right_inj _).mp (crcT_inj (crcFold_inj b h))

theorem sumB_append (a b : Bytes) : sumB (a ++ b) = sumB a + sumB b := by simp [sumB]
theorem sumB_cons (x : UInt8) (l : Bytes) : sumB (x :: l) = x.toNat + sumB l := by simp [sumB]
theorem sumB_nil : sumB [] = 0 := rfl

theorem checksum_toNat (l : Bytes) : (checksum l).toNat = checksumNat l :=
  u8_mod _

theorem sum_with_checksum (l : Bytes) : (sumB l + (checksum l).toNat) % 256 = 0 := by
  rw [checksum_toNat]; unfold checksumNat; omega

theorem checksum_single_byte (a b : Bytes) (x y : UInt8)
    (h : checksum (a ++ [x] ++ b) = checksum (a ++ [y] ++ b)) : x = y := by
  have hx := x.toNat_lt
  have hy := y.toNat_lt
  have h' := congrArg UInt8.toNat h
  simp only [checksum_toNat, checksumNat, sumB_append, sumB_cons, sumB_nil] at h'
  exact UInt8.toNat_inj.mp (by omega)

end Msmart.Lemmas
