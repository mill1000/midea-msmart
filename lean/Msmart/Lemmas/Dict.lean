/-
  Insertion-ordered dictionaries (Python dict.update semantics): lookup after update, and the
  distinct keys that make an item list and the mapping it denotes the same thing.
-/
import Msmart.Model.Response

namespace Msmart.Lemmas
open Msmart.Model

variable {κ ν : Type} [DecidableEq κ]

theorem dictGet_dictSet (d : List (κ × ν)) (k k' : κ) (v : ν) :
    dictGet (dictSet d k v) k' = if k = k' then some v else dictGet d k' := by
  fun_induction dictSet d k v with
  | case1 => rfl
  | case2 => simp only [dictGet]; split <;> rfl
  | case3 a b t k v h ih =>
    simp only [dictGet, ih]
    split
    · rw [if_neg (by rintro rfl; contradiction)]
    · rfl

/-- `d.update(s)[k]` is `dict(s)[k]` when `s` assigns `k`, else `d[k]` -/
theorem dictGet_dictUpdate (d s : List (κ × ν)) (k : κ) :
    dictGet (dictUpdate d s) k = (dictGet (dictUpdate [] s) k).or (dictGet d k) := by
  induction s generalizing d with
  | nil => rfl
  | cons kv t ih =>
    simp only [dictUpdate, List.foldl_cons] at ih ⊢
    rw [ih (dictSet d _ _), ih (dictSet [] _ _), dictGet_dictSet, dictGet_dictSet, Option.or_assoc]
    split <;> simp [dictGet]

theorem dictUpdate_append (d s t : List (κ × ν)) :
    dictUpdate d (s ++ t) = dictUpdate (dictUpdate d s) t := List.foldl_append

def keys (d : List (κ × ν)) : List κ := d.map Prod.fst

theorem dictSet_of_not_mem {d : List (κ × ν)} {k : κ} (h : k ∉ keys d) (v : ν) : dictSet d k v = d ++ [(k, v)] := by
  fun_induction dictSet d k v with
  | case1 => rfl
  | case2 => simp [keys] at h
  | case3 a b t k v _ ih => rw [ih fun hm => h (List.mem_cons_of_mem _ hm)]; rfl

theorem keys_dictSet (d : List (κ × ν)) (k : κ) (v : ν) :
    keys (dictSet d k v) = if k ∈ keys d then keys d else keys d ++ [k] := by
  fun_induction dictSet d k v with
  | case1 => rfl
  | case2 => simp [keys]
  | case3 a b t k v e ih =>
    simp only [keys, List.map_cons, List.mem_cons, Ne.symm e, false_or] at ih ⊢
    rw [ih]; split <;> simp [*]

theorem nodup_dictUpdate (d s : List (κ × ν)) (h : (keys d).Nodup) : (keys (dictUpdate d s)).Nodup := by
  induction s generalizing d with
  | nil => exact h
  | cons kv t ih =>
    refine ih _ ?_
    rw [keys_dictSet]
    split
    · exact h
    · rename_i hk
      exact List.nodup_append.mpr ⟨h, List.pairwise_singleton _ _, fun a ha b hb e => hk (List.mem_singleton.mp hb ▸ e ▸ ha)⟩

/-- `dict(d.items()) == d`, with a prefix so that the induction goes through -/
theorem dictUpdate_of_nodup (d e : List (κ × ν)) (h : (keys (d ++ e)).Nodup) : dictUpdate d e = d ++ e := by
  induction e generalizing d with
  | nil => exact (List.append_nil d).symm
  | cons kv t ih =>
    rw [List.append_cons] at h ⊢
    have hk : kv.1 ∉ keys d := fun hm => by
      simp only [keys, List.map_append, List.nodup_append] at h
      exact h.1.2.2 _ hm _ (List.mem_singleton_self _) rfl
    rw [← ih _ h, ← dictSet_of_not_mem hk]; rfl

/-- lookup-equivalence of dictionaries (everything downstream reads capabilities with `.get`) -/
def DictEq (a b : List (κ × ν)) : Prop := ∀ k, dictGet a k = dictGet b k

theorem DictEq.refl (a : List (κ × ν)) : DictEq a a := fun _ => rfl
theorem DictEq.trans {a b c : List (κ × ν)} (h1 : DictEq a b) (h2 : DictEq b c) : DictEq a c :=
  fun k => (h1 k).trans (h2 k)
theorem DictEq.symm {a b : List (κ × ν)} (h : DictEq a b) : DictEq b a := fun k => (h k).symm

theorem dictUpdate_congr {a b : List (κ × ν)} (s : List (κ × ν)) (h : DictEq a b) :
    DictEq (dictUpdate a s) (dictUpdate b s) := by
  intro k; rw [dictGet_dictUpdate, dictGet_dictUpdate b, h k]

/-- updating with the dictionary built from a list of assignments = applying the assignments -/
theorem dictUpdate_via_fresh (d s : List (κ × ν)) :
    DictEq (dictUpdate d (dictUpdate [] s)) (dictUpdate d s) := by
  intro k
  rw [dictGet_dictUpdate, dictGet_dictUpdate d s, dictUpdate_of_nodup [] (dictUpdate [] s) (nodup_dictUpdate [] s .nil)]
  rfl

end Msmart.Lemmas
