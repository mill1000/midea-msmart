/-
  Gentle peers and settled states: if every reaction of the peer to a write is at most one prompt event —
  on V3 a close, or a segment holding exactly one packet (an answer, an error packet, garbage of any
  content); on V2 any event — then no operation leaves anything behind: nothing pending on the network,
  nothing queued or buffered on an open connection.  This is where the faults of C08's alphabet
  {drop, error packet, garbage, peer close} lead, and what the recovery theorems start from.
  One development over the protocol class (`SettledV`, `GentleV`); `Settled` / `Gentle` are its V3 instance,
  `Settled2` / `Gentle2` (SessionSettleV2) its V2 instance.
-/
import Msmart.Lemmas.SessionRecover

namespace Msmart.Lemmas.Sess
open Msmart.Model Msmart.Model.Session

/-- one prompt event: the peer closes, or sends a segment that the reassembly cuts into exactly one packet -/
def GentleEv : PeerEvent → Prop
  | .close => True
  | .data b => ∃ pkt, parseLoop b = ([pkt], [])

/-- a peer whose reaction to every write is nothing, or one gentle event within the read timeout -/
def Gentle (p : Params) (rx : Reactions) : Prop :=
  ∀ cid idx, rx cid idx = [] ∨ ∃ d ev, rx cid idx = [(d, ev)] ∧ d ≤ p.readTimeout ∧ GentleEv ev

/-- nothing left behind (V3 session) -/
structure Settled (s : S) : Prop where
  quiet : s.w.pending = []
  unarmed : s.w.cancelAt = none
  ver : s.l.version = 3
  conn : ∀ c, s.l.conn = some c → c.core.v3 = true ∧ (c.closing = true ∨ (c.queue = [] ∧ c.buffer = []))

/-- the state of an open connection in the middle of an exchange, nothing queued / buffered -/
structure Idle (s : S) (c : Conn) : Prop where
  conn : s.l.conn = some c
  v3 : c.core.v3 = true
  open_ : c.closing = false
  queue : c.queue = []
  buffer : c.buffer = []
  quiet : s.w.pending = []
  unarmed : s.w.cancelAt = none
  ver : s.l.version = 3

theorem Idle.settled {s : S} {c : Conn} (h : Idle s c) : Settled s :=
  ⟨h.quiet, h.unarmed, h.ver, by intro c' hc'; rw [h.conn] at hc'; cases hc'; exact ⟨h.v3, .inr ⟨h.queue, h.buffer⟩⟩⟩

/-! ### both protocol classes at once -/

/-- a peer whose reaction to every write is nothing, or one event within the read timeout — on V3 a gentle one -/
def GentleV (v3 : Bool) (p : Params) (rx : Reactions) : Prop :=
  ∀ cid idx, rx cid idx = [] ∨ ∃ d ev, rx cid idx = [(d, ev)] ∧ d ≤ p.readTimeout ∧ (v3 = true → GentleEv ev)

/-- nothing left behind, on a session of protocol class `v3` (the reassembly buffer matters on V3 only) -/
structure SettledV (v3 : Bool) (s : S) : Prop where
  quiet : s.w.pending = []
  unarmed : s.w.cancelAt = none
  ver : decide (s.l.version = 3) = v3
  conn : ∀ c, s.l.conn = some c → c.core.v3 = v3 ∧ (c.closing = true ∨ (c.queue = [] ∧ (v3 = true → c.buffer = [])))

theorem settledV_true {s : S} : SettledV true s ↔ Settled s :=
  ⟨fun h => ⟨h.quiet, h.unarmed, by simpa using h.ver, by simpa using h.conn⟩,
   fun h => ⟨h.quiet, h.unarmed, by simpa using h.ver, by simpa using h.conn⟩⟩

theorem Gentle.gentleV {p : Params} {rx : Reactions} (h : Gentle p rx) : GentleV true p rx := by
  intro cid idx
  rcases h cid idx with h0 | ⟨d, ev, h1, hd, hg⟩
  · exact .inl h0
  · exact .inr ⟨d, ev, h1, hd, fun _ => hg⟩

variable {v : Bool} {p : Params} {rx : Reactions} {s : S}

theorem SettledV.withConn {s' : S} {c : Conn} (hs : SettledV v s) (hw : s'.w.pending = [] ∧ s'.w.cancelAt = none)
    (hver : s'.l.version = s.l.version) (hc : s'.l.conn = some c) (hv : c.core.v3 = v)
    (hsh : c.closing = true ∨ (c.queue = [] ∧ (v = true → c.buffer = []))) : SettledV v s' :=
  ⟨hw.1, hw.2, by rw [hver]; exact hs.ver, by intro c' hc'; rw [hc] at hc'; cases hc'; exact ⟨hv, hsh⟩⟩

theorem SettledV.mapConn {s' : S} {g : Conn → Conn} (hs : SettledV v s)
    (h : s'.w.pending = s.w.pending ∧ s'.w.cancelAt = s.w.cancelAt ∧ s'.l.version = s.l.version ∧
      s'.l.conn = s.l.conn.map g)
    (hg : ∀ c, (g c).core.v3 = c.core.v3 ∧ (g c).closing = c.closing ∧ (c.queue = [] → (g c).queue = []) ∧
      (g c).buffer = c.buffer) : SettledV v s' := by
  obtain ⟨h1, h2, h3, h4⟩ := h
  refine ⟨h1.trans hs.quiet, h2.trans hs.unarmed, by rw [h3]; exact hs.ver, fun c' hc' => ?_⟩
  rw [h4, Option.map_eq_some_iff] at hc'
  obtain ⟨c, hc, rfl⟩ := hc'
  obtain ⟨g1, g2, g3, g4⟩ := hg c
  rw [g1, g2, g4]
  exact ⟨(hs.conn c hc).1, (hs.conn c hc).2.imp id fun h => ⟨g3 h.1, h.2⟩⟩

theorem SettledV.pump (t : Nat) (hs : SettledV v s) : SettledV v (pump s t) := by
  rw [pump_quiet t hs.quiet]
  exact ⟨hs.quiet, hs.unarmed, hs.ver, hs.conn⟩

/-- **the read after a write.** Whatever a gentle peer answers to a write on a settled state — nothing, a
    close, one segment — the read await takes all of it off the network and off the queue -/
theorem SettledV.read (hg : GentleV v p rx) {s1 s2 : S} {e : Ev} {r : ReadRes} (hs : SettledV v s) (hw : Wrote rx s e s1)
    (ha : awaitQueue (s1.w.pending.length + 1) s1 (s1.w.now + p.readTimeout) = (r, s2)) : SettledV v s2 := by
  obtain ⟨hc, hcl, hw⟩ := hw
  rename_i c core
  obtain ⟨hcid, hv, _⟩ := (Keep.write hw).spec
  generalize hs1 : react rx (setCore (logEv s e) c core) c.core.cid c.core.nWrites = s1 at ha
  replace hs1 := hs1.symm
  obtain ⟨hcv, hsh⟩ := hs.conn c hc
  have hidle : c.queue = [] ∧ (v = true → c.buffer = []) := hsh.resolve_left (by simp [hcl])
  rw [← hv] at hcv
  have hc1 : s1.l.conn = some { c with core := core } := by rw [hs1]; rfl
  have hnc : s1.w.cancelAt = none := by rw [hs1]; exact hs.unarmed
  have hver : s1.l.version = s.l.version := by rw [hs1]; rfl
  have hp : s1.w.pending = (rx c.core.cid c.core.nWrites).map fun r => ⟨s1.w.now + r.1, core.cid, r.2⟩ := by
    simp [hs1, react, setCore, logEv, hs.quiet, hcid]
  rcases hg c.core.cid c.core.nWrites with h0 | ⟨d, ev', h1, hd, hge⟩
  · rw [h0] at hp
    rw [awaitQueue_quiet _ _ (by simp [queueHead, hc1, hidle.1]) hp hnc] at ha
    cases ha
    exact hs.withConn ⟨hp, hnc⟩ hver hc1 hcv (.inr hidle)
  · rw [h1] at hp
    rw [awaitQueue_single (c := { c with core := core }) hc1 hidle.1 hp (Nat.add_le_add_left hd _) hnc,
      applyEvent_open _ (show ({ c with core := core } : Conn).closing = false from hcl)] at ha
    cases ev' with
    | close =>
      simp only [hidle.1] at ha
      cases ha
      exact hs.withConn ⟨rfl, hnc⟩ hver rfl hcv (.inl rfl)
    | data b =>
      cases v with
      | false =>
        simp only [hidle.1, segQueue, hcv, Bool.false_eq_true, ↓reduceIte, List.nil_append] at ha
        cases ha
        exact hs.withConn ⟨rfl, hnc⟩ hver rfl hcv (.inr ⟨rfl, nofun⟩)
      | true =>
        obtain ⟨pkt, hpk⟩ := hge rfl
        simp only [hidle.1, hidle.2 rfl, segQueue, hcv, ↓reduceIte, List.nil_append, hpk] at ha
        cases ha
        exact hs.withConn ⟨rfl, hnc⟩ hver rfl hcv (.inr ⟨rfl, fun _ => rfl⟩)

theorem SettledV.tr (hg : GentleV v p rx) {s' : S} {tr : List Ev} (h : Tr p rx s tr s') (hs : SettledV v s) : SettledV v s' := by
  refine h.inv ?_ ?_ hs
  · intro s _ hst hs
    cases hst with
    | pump => exact hs.pump _
    | pop =>
      exact hs.mapConn (g := fun c => { c with queue := c.queue.drop 1 })
        (by cases h : s.l.conn <;> simp [popQueue, softConn, h]) fun c => ⟨rfl, rfl, fun h => by simp [h], rfl⟩
    | flush =>
      exact hs.mapConn (g := fun c => { c with queue := [] })
        (by cases h : s.l.conn <;> simp [flush, softConn, h]) fun c => ⟨rfl, rfl, fun _ => rfl, rfl⟩
    | dropConnect => exact ⟨hs.quiet, hs.unarmed, hs.ver, hs.conn⟩
  · intro s _ _ hc hs
    cases hc with
    | read hw hr => exact hs.read hg hw hr
    | accept lk e =>
      exact hs.mapConn (g := fun c => { c with core := { c.core with localKey := some lk }, keyExpiry := some e })
        (by cases h : s.l.conn <;> simp [opAccept, logEv, h]) fun c => ⟨rfl, rfl, id, rfl⟩
    | forget =>
      exact hs.mapConn (g := fun c => { c with core := { c.core with localKey := none }, keyExpiry := none })
        (by cases h : s.l.conn <;> simp [opForget, logEv, h]) fun c => ⟨rfl, rfl, id, rfl⟩
    | closed => exact ⟨by simp [hs.quiet], by simp [hs.unarmed], by simpa using hs.ver, by simp⟩
    | connect => exact hs.withConn ⟨hs.quiet, hs.unarmed⟩ rfl rfl hs.ver (.inr ⟨rfl, fun _ => rfl⟩)

/-- **gentle peers leave nothing behind.** Whatever happens during an exchange with a gentle peer —
    answers, silence, error packets, garbage packets, closes, refused or hanging connects — the state
    after `LAN.send` is settled again. -/
theorem SettledV.lanSend (hg : GentleV v p rx) (frame : Bytes) (n : Nat) (hs : SettledV v s) :
    SettledV v (lanSend p rx s frame n).2 :=
  have ⟨_, _, _, i, _⟩ := lanSend_tr (p := p) (rx := rx) (s := s) (frame := frame) (n := n) rfl
  hs.tr hg i.path

theorem lanSend_settled (hg : Gentle p rx) (frame : Bytes) (n : Nat) (hs : Settled s) : Settled (lanSend p rx s frame n).2 :=
  settledV_true.1 ((settledV_true.2 hs).lanSend hg.gentleV frame n)

/-- the operations of a history that keep a session of class `v` settled: all but the cancelled ones, and
    `authenticate` (which makes the session a V3 session) on V3 only -/
def Keeps (v : Bool) : Op → Prop
  | .authenticate .. => v = true
  | .sendCancelled .. | .authCancelled .. => False
  | _ => True

theorem SettledV.step (hg : GentleV v p rx) (hs : SettledV v s) {op : Op} (hop : Keeps v op) :
    SettledV v (step p rx s op).2 := by
  cases op with
  | send f => rw [Session.step, outcomeOfSend_snd]; exact hs.lanSend hg f _
  | sendN f n => rw [Session.step, outcomeOfSend_snd]; exact hs.lanSend hg f n
  | authenticate t k =>
    cases hop
    rw [Session.step, outcomeOfAuth_snd]
    exact lanAuthenticate_inv (P := SettledV true) (fun h => ⟨h.quiet, h.unarmed, rfl, h.conn⟩) (fun ht h => h.tr hg ht)
      (fun _ _ _ h => SettledV.pump _ (s := storeCreds _ _ _) ⟨h.quiet, h.unarmed, h.ver, h.conn⟩) rfl hs
  | advance ms => exact hs.pump _
  | setMaxLifetime m => exact ⟨hs.quiet, hs.unarmed, hs.ver, hs.conn⟩
  | sendCancelled | authCancelled => exact hop.elim

/-- a fresh `LAN` object that has been told its device is V3 is settled -/
theorem settled_fresh (s : S) (h1 : s.w.pending = []) (h2 : s.w.cancelAt = none) (h3 : s.l.version = 3)
    (h4 : s.l.conn = none) : Settled s :=
  ⟨h1, h2, h3, by intro c hc; rw [h4] at hc; cases hc⟩

theorem SettledV.alive (hs : SettledV v s) (hal : connAlive s = true) :
    ∃ c, s.l.conn = some c ∧ c.core.v3 = v ∧ c.closing = false ∧ c.queue = [] ∧ (v = true → c.buffer = []) := by
  cases hc : s.l.conn with
  | none => simp [connAlive, hc] at hal
  | some c =>
    have hcl : c.closing = false := by simp [connAlive, hc] at hal; exact hal.1
    obtain ⟨hv, hsh⟩ := hs.conn c hc
    exact ⟨c, rfl, hv, hcl, hsh.resolve_left (by simp [hcl])⟩

end Msmart.Lemmas.Sess
