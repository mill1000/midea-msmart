import Msmart.Crypto.AES
import Msmart.Lemmas.U8
/-
The AES block functions: each step of the inverse cipher undoes the matching step of the cipher and
vice versa, for ALL keys and ALL blocks (no length hypotheses are needed because every step
function in `AES.lean` is total and its inverse cancels it on all lists); every step keeps the length.
Core Lean only; no axioms beyond `propext`, `Classical.choice`, `Quot.sound` (see the `#print axioms` lines at the end).
-/
namespace Msmart.Crypto.AES

theorem xor_left_comm (a b c : UInt8) : a ^^^ (b ^^^ c) = b ^^^ (a ^^^ c) := by
  rw [← UInt8.xor_assoc, UInt8.xor_comm a b, UInt8.xor_assoc]

theorem xor_and (x y z : UInt8) : (x ^^^ y) &&& z = (x &&& z) ^^^ (y &&& z) := by
  apply UInt8.toBitVec_inj.1
  ext i
  simp [Bool.and_xor_distrib_right]

@[simp] theorem xorBytes_length (s k : List UInt8) : (xorBytes s k).length = s.length := by
  fun_induction xorBytes s k <;> simp_all

@[simp] theorem xorBytes_nil_right (s : List UInt8) : xorBytes s [] = s := by
  cases s <;> rfl

@[simp] theorem xorBytes_nil_left (k : List UInt8) : xorBytes [] k = [] := by
  cases k <;> rfl

theorem xorBytes_cancel (s k : List UInt8) : xorBytes (xorBytes s k) k = s := by
  fun_induction xorBytes s k <;> simp_all [xorBytes, UInt8.xor_assoc]

theorem xorBytes_right_inj (a b k : List UInt8) : xorBytes a k = xorBytes b k ↔ a = b :=
  ⟨fun h => by rw [← xorBytes_cancel a k, h, xorBytes_cancel], fun h => h ▸ rfl⟩

theorem xorBytes_comm (a b : List UInt8) (h : a.length = b.length) : xorBytes a b = xorBytes b a := by
  fun_induction xorBytes a b with
  | case1 x xs y ys ih => simp_all [xorBytes, UInt8.xor_comm]
  | case2 xs => simp at h; subst h; rfl
  | case3 y ys => simp at h

theorem xorBytes_cancel_left (k a : List UInt8) (h : a.length = k.length) :
    xorBytes k (xorBytes k a) = a := by
  rw [xorBytes_comm k a h.symm, xorBytes_comm k _ (by simp [h]), xorBytes_cancel]

/-- Left cancellation (all three lists of the same length, e.g. 32-byte `nonce XOR key`). -/
theorem xorBytes_left_cancel {k a b : List UInt8} (ha : a.length = k.length) (hb : b.length = k.length)
    (h : xorBytes k a = xorBytes k b) : a = b := by
  rw [← xorBytes_cancel_left k a ha, h, xorBytes_cancel_left k b hb]

theorem addRoundKey_cancel (s k : List UInt8) : addRoundKey (addRoundKey s k) k = s :=
  xorBytes_cancel s k

theorem invShiftRows_shiftRows (s : List UInt8) : invShiftRows (shiftRows s) = s := by
  fun_cases shiftRows s with
  | case1 => rfl
  | case2 s h =>
    fun_cases invShiftRows s with
    | case1 => exact absurd rfl (h _ _ _ _ _ _ _ _ _ _ _ _ _ _ _ _)
    | case2 => rfl

theorem shiftRows_invShiftRows (s : List UInt8) : shiftRows (invShiftRows s) = s := by
  fun_cases invShiftRows s with
  | case1 => rfl
  | case2 s h =>
    fun_cases shiftRows s with
    | case1 => exact absurd rfl (h _ _ _ _ _ _ _ _ _ _ _ _ _ _ _ _)
    | case2 => rfl

/- One sweep for both directions: the outer lookup of either direction is an inner lookup of the
other, which the kernel has kept, so the pair costs little more than one direction alone. -/
theorem sbox_inverse (x : UInt8) : invSbox (sbox x) = x ∧ sbox (invSbox x) = x :=
  u8_forall (by decide +kernel) x

theorem invSbox_sbox (x : UInt8) : invSbox (sbox x) = x := (sbox_inverse x).1

theorem sbox_invSbox (x : UInt8) : sbox (invSbox x) = x := (sbox_inverse x).2

theorem invSubBytes_subBytes (s : List UInt8) : invSubBytes (subBytes s) = s := by
  simp [invSubBytes, subBytes, Function.comp_def, invSbox_sbox]

theorem subBytes_invSubBytes (s : List UInt8) : subBytes (invSubBytes s) = s := by
  simp [invSubBytes, subBytes, Function.comp_def, sbox_invSbox]

theorem hibit (x : UInt8) : x &&& 0x80 = 0 ∨ x &&& 0x80 = 0x80 :=
  u8_forall (by decide +kernel) x

/-- `xtime` is GF(2)-linear. -/
theorem xtime_xor (x y : UInt8) : xtime (x ^^^ y) = xtime x ^^^ xtime y := by
  unfold xtime
  rw [UInt8.shiftLeft_xor, xor_and]
  rcases hibit x with hx | hx <;> rcases hibit y with hy | hy <;>
    simp [hx, hy, UInt8.xor_assoc, UInt8.xor_comm, xor_left_comm]

/-! MixColumns and InvMixColumns are circulant: rows 1 to 3 are row 0 of the rotated column. -/

theorem mix1_eq (a b c d : UInt8) : mix1 a b c d = mix0 b c d a := by
  simp only [mix0, mix1]; ac_rfl

theorem mix2_eq (a b c d : UInt8) : mix2 a b c d = mix0 c d a b := by
  simp only [mix0, mix2]; ac_rfl

theorem mix3_eq (a b c d : UInt8) : mix3 a b c d = mix0 d a b c := by
  simp only [mix0, mix3]; ac_rfl

theorem invMix1_eq (a b c d : UInt8) : invMix1 a b c d = invMix0 b c d a := by
  simp only [invMix0, invMix1]; ac_rfl

theorem invMix2_eq (a b c d : UInt8) : invMix2 a b c d = invMix0 c d a b := by
  simp only [invMix0, invMix2]; ac_rfl

theorem invMix3_eq (a b c d : UInt8) : invMix3 a b c d = invMix0 d a b c := by
  simp only [invMix0, invMix3]; ac_rfl

/- So one identity per order of composition remains.  It holds already in GF(2)[x] (no reduction
modulo the AES polynomial): expand by linearity into an XOR of terms `xtime^k v` and sort the sum
(`ac_nf`; sorting by `simp` with commutativity lemmas costs fifty times as much).  Every term but the
leading `a` then stands next to its copy, and `simp` cancels the pairs from the tail inwards. -/
theorem invMix0_mix0 (a b c d : UInt8) :
    invMix0 (mix0 a b c d) (mix0 b c d a) (mix0 c d a b) (mix0 d a b c) = a := by
  simp only [invMix0, mix0, mul2, mul3, mul4, mul8, mul9, mul11, mul13, mul14, xtime_xor]
  ac_nf
  simp only [UInt8.xor_self, UInt8.xor_zero]

theorem mix0_invMix0 (a b c d : UInt8) :
    mix0 (invMix0 a b c d) (invMix0 b c d a) (invMix0 c d a b) (invMix0 d a b c) = a := by
  simp only [invMix0, mix0, mul2, mul3, mul4, mul8, mul9, mul11, mul13, mul14, xtime_xor]
  ac_nf
  simp only [UInt8.xor_self, UInt8.xor_zero]

theorem invMixColumns_mixColumns (s : List UInt8) : invMixColumns (mixColumns s) = s := by
  fun_induction mixColumns s with
  | case1 a b c d t ih =>
    simp only [invMixColumns, ih, mix1_eq, mix2_eq, mix3_eq, invMix1_eq, invMix2_eq, invMix3_eq,
      invMix0_mix0]
  | case2 s h =>
    fun_cases invMixColumns s with
    | case1 => exact absurd rfl (h _ _ _ _ _)
    | case2 => rfl

theorem mixColumns_invMixColumns (s : List UInt8) : mixColumns (invMixColumns s) = s := by
  fun_induction invMixColumns s with
  | case1 a b c d t ih =>
    simp only [mixColumns, ih, mix1_eq, mix2_eq, mix3_eq, invMix1_eq, invMix2_eq, invMix3_eq,
      mix0_invMix0]
  | case2 s h =>
    fun_cases mixColumns s with
    | case1 => exact absurd rfl (h _ _ _ _ _)
    | case2 => rfl

@[simp] theorem addRoundKey_length (s k : List UInt8) : (addRoundKey s k).length = s.length :=
  xorBytes_length s k

@[simp] theorem subBytes_length (s : List UInt8) : (subBytes s).length = s.length := by
  simp [subBytes]

@[simp] theorem invSubBytes_length (s : List UInt8) : (invSubBytes s).length = s.length := by
  simp [invSubBytes]

@[simp] theorem shiftRows_length (s : List UInt8) : (shiftRows s).length = s.length := by
  unfold shiftRows; split <;> rfl

@[simp] theorem invShiftRows_length (s : List UInt8) : (invShiftRows s).length = s.length := by
  unfold invShiftRows; split <;> rfl

@[simp] theorem mixColumns_length (s : List UInt8) : (mixColumns s).length = s.length := by
  fun_induction mixColumns s <;> simp_all

@[simp] theorem invMixColumns_length (s : List UInt8) : (invMixColumns s).length = s.length := by
  fun_induction invMixColumns s <;> simp_all

@[simp] theorem encRound_length (s k : List UInt8) : (encRound s k).length = s.length := by
  simp [encRound]

@[simp] theorem encFinal_length (s k : List UInt8) : (encFinal s k).length = s.length := by
  simp [encFinal]

@[simp] theorem decRound_length (s k : List UInt8) : (decRound s k).length = s.length := by
  simp [decRound]

@[simp] theorem decFinal_length (s k : List UInt8) : (decFinal s k).length = s.length := by
  simp [decFinal]

theorem foldl_encRound_length (mid : List (List UInt8)) (s : List UInt8) :
    (mid.foldl encRound s).length = s.length := by
  induction mid generalizing s with
  | nil => rfl
  | cons k ks ih => simp [ih]

theorem foldr_decRound_length (mid : List (List UInt8)) (s : List UInt8) :
    (mid.foldr (fun k s => decRound s k) s).length = s.length := by
  induction mid with
  | nil => rfl
  | cons k ks ih => simp [ih]

@[simp] theorem cipher_length_eq (ks : List (List UInt8)) (blk : List UInt8) :
    (cipher ks blk).length = blk.length := by
  cases ks with
  | nil => rfl
  | cons k0 rest => simp [cipher, foldl_encRound_length]

@[simp] theorem invCipher_length_eq (ks : List (List UInt8)) (blk : List UInt8) :
    (invCipher ks blk).length = blk.length := by
  cases ks with
  | nil => rfl
  | cons k0 rest => simp [invCipher, foldr_decRound_length]

theorem cipher_length (ks : List (List UInt8)) (blk : List UInt8)
    (_ : ∀ k ∈ ks, k.length = 16) (h : blk.length = 16) : (cipher ks blk).length = 16 := by
  simp [h]

theorem invCipher_length (ks : List (List UInt8)) (blk : List UInt8)
    (_ : ∀ k ∈ ks, k.length = 16) (h : blk.length = 16) : (invCipher ks blk).length = 16 := by
  simp [h]

@[simp] theorem encryptBlock_length (key blk : List UInt8) :
    (encryptBlock key blk).length = blk.length := cipher_length_eq _ _

@[simp] theorem decryptBlock_length (key blk : List UInt8) :
    (decryptBlock key blk).length = blk.length := invCipher_length_eq _ _

theorem decRound_encRound (s k : List UInt8) : decRound (encRound s k) k = s := by
  simp [decRound, encRound, addRoundKey_cancel, invMixColumns_mixColumns,
    invShiftRows_shiftRows, invSubBytes_subBytes]

theorem encRound_decRound (s k : List UInt8) : encRound (decRound s k) k = s := by
  simp [decRound, encRound, addRoundKey_cancel, mixColumns_invMixColumns,
    shiftRows_invShiftRows, subBytes_invSubBytes]

theorem decFinal_encFinal (s k : List UInt8) : decFinal (encFinal s k) k = s := by
  simp [decFinal, encFinal, addRoundKey_cancel, invShiftRows_shiftRows, invSubBytes_subBytes]

theorem encFinal_decFinal (s k : List UInt8) : encFinal (decFinal s k) k = s := by
  simp [decFinal, encFinal, addRoundKey_cancel, shiftRows_invShiftRows, subBytes_invSubBytes]

theorem foldr_decRound_foldl_encRound (mid : List (List UInt8)) (s : List UInt8) :
    mid.foldr (fun k s => decRound s k) (mid.foldl encRound s) = s := by
  induction mid generalizing s with
  | nil => rfl
  | cons k ks ih => simp [List.foldl_cons, List.foldr_cons, ih, decRound_encRound]

theorem foldl_encRound_foldr_decRound (mid : List (List UInt8)) (s : List UInt8) :
    mid.foldl encRound (mid.foldr (fun k s => decRound s k) s) = s := by
  induction mid with
  | nil => rfl
  | cons k ks ih => simp [List.foldl_cons, List.foldr_cons, ih, encRound_decRound]

theorem invCipher_cipher (ks : List (List UInt8)) (blk : List UInt8) :
    invCipher ks (cipher ks blk) = blk := by
  cases ks with
  | nil => rfl
  | cons k0 rest =>
    simp [invCipher, cipher, decFinal_encFinal, foldr_decRound_foldl_encRound, addRoundKey_cancel]

theorem cipher_invCipher (ks : List (List UInt8)) (blk : List UInt8) :
    cipher ks (invCipher ks blk) = blk := by
  cases ks with
  | nil => rfl
  | cons k0 rest =>
    simp [invCipher, cipher, encFinal_decFinal, foldl_encRound_foldr_decRound, addRoundKey_cancel]

/-- Holds for every key and every block (in particular for 16/32-byte keys and 16-byte blocks). -/
theorem decryptBlock_encryptBlock (key blk : List UInt8) :
    decryptBlock key (encryptBlock key blk) = blk :=
  invCipher_cipher _ _

theorem encryptBlock_decryptBlock (key blk : List UInt8) :
    encryptBlock key (decryptBlock key blk) = blk :=
  cipher_invCipher _ _

theorem cipher_injective (ks : List (List UInt8)) {a b : List UInt8}
    (h : cipher ks a = cipher ks b) : a = b :=
  Function.LeftInverse.injective (invCipher_cipher ks) h

theorem invCipher_injective (ks : List (List UInt8)) {a b : List UInt8}
    (h : invCipher ks a = invCipher ks b) : a = b :=
  Function.LeftInverse.injective (cipher_invCipher ks) h

theorem encryptBlock_injective (key : List UInt8) {a b : List UInt8}
    (h : encryptBlock key a = encryptBlock key b) : a = b := cipher_injective _ h

theorem decryptBlock_injective (key : List UInt8) {a b : List UInt8}
    (h : decryptBlock key a = decryptBlock key b) : a = b := invCipher_injective _ h

#print axioms xorBytes_left_cancel
#print axioms cipher_length_eq
#print axioms decryptBlock_encryptBlock
#print axioms cipher_invCipher

end Msmart.Crypto.AES
