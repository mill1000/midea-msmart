import Msmart.Crypto.AESProps
/-
Chunking into blocks, ECB/CBC modes, PKCS#7 padding and the shape of the key schedule.
Core Lean only.  Axioms: `propext`, `Quot.sound` (and possibly `Classical.choice` via `omega`/`simp`).
-/
namespace Msmart.Crypto.AES

theorem chunksAux_nil (n fuel : Nat) : chunksAux n fuel [] = [] := by
  cases fuel <;> simp [chunksAux]

theorem chunksAux_flatten (n : Nat) (fuel : Nat) (l : List UInt8) (h : l.length ≤ fuel) :
    (chunksAux n fuel l).flatten = l := by
  fun_induction chunksAux n fuel l with
  | case1 l => simp_all
  | case2 fuel l hl => simp_all
  | case3 fuel l hl ih => rw [List.flatten_cons, ih (by simp; omega), List.take_append_drop]

theorem chunksAux_map_length (n fuel : Nat) (l l' : List UInt8) (h : l.length = l'.length) :
    (chunksAux n fuel l).map List.length = (chunksAux n fuel l').map List.length := by
  fun_induction chunksAux n fuel l generalizing l' with
  | case1 l => rfl
  | case2 fuel l hl =>
    obtain rfl := List.isEmpty_iff.1 hl
    rw [List.eq_nil_of_length_eq_zero h.symm, chunksAux_nil]
  | case3 fuel l hl ih =>
    have hl' : ¬ l'.isEmpty := by
      rwa [List.isEmpty_iff_length_eq_zero, ← h, ← List.isEmpty_iff_length_eq_zero]
    rw [chunksAux, if_neg hl', List.map_cons, List.map_cons, List.length_take, List.length_take,
      ih (l'.drop (n + 1)) (by rw [List.length_drop, List.length_drop, h]), h]

theorem eq_of_flatten_eq {α : Type} {as bs : List (List α)} (hf : as.flatten = bs.flatten)
    (hl : as.map List.length = bs.map List.length) : as = bs := by
  induction as generalizing bs with
  | nil => cases bs <;> simp_all
  | cons a as ih =>
    cases bs with
    | nil => simp at hl
    | cons b bs =>
      rw [List.map_cons, List.map_cons, List.cons.injEq] at hl
      rw [List.flatten_cons, List.flatten_cons] at hf
      obtain ⟨rfl, ht⟩ := List.append_inj hf hl.1
      rw [ih ht hl.2]

theorem chunksAux_all_full (n fuel : Nat) (l : List UInt8) (h : l.length % (n + 1) = 0) :
    ∀ c ∈ chunksAux n fuel l, c.length = n + 1 := by
  fun_induction chunksAux n fuel l with
  | case1 l => simp
  | case2 fuel l hl => simp
  | case3 fuel l hl ih =>
    have hpos : 0 < l.length := Nat.pos_of_ne_zero (mt List.isEmpty_iff_length_eq_zero.2 hl)
    have hge : n + 1 ≤ l.length := Nat.le_of_mod_lt (by omega)
    intro c hc
    rcases List.mem_cons.mp hc with rfl | hc
    · rw [List.length_take]; omega
    · exact ih (by rw [List.length_drop, ← Nat.mod_eq_sub_mod hge]; exact h) c hc

theorem length_flatten_of_all_length {α : Type} (k : Nat) (bs : List (List α))
    (h : ∀ b ∈ bs, b.length = k) : bs.flatten.length = k * bs.length := by
  rw [List.length_flatten, List.map_eq_replicate_iff.2 h, List.sum_replicate_nat, Nat.mul_comm]

theorem map_length_map (f : List UInt8 → List UInt8) (hf : ∀ b, (f b).length = b.length)
    (bs : List (List UInt8)) : (bs.map f).map List.length = bs.map List.length := by
  rw [List.map_map]
  exact List.map_congr_left (fun b _ => hf b)

theorem chunks16_flatten (l : List UInt8) : (chunks16 l).flatten = l :=
  chunksAux_flatten 15 _ l (Nat.le_refl _)

theorem chunks4_flatten (l : List UInt8) : (chunks4 l).flatten = l :=
  chunksAux_flatten 3 _ l (Nat.le_refl _)

theorem chunks16_lengths (l : List UInt8) (h : l.length % 16 = 0) :
    ∀ c ∈ chunks16 l, c.length = 16 :=
  chunksAux_all_full 15 _ l h

theorem chunks4_lengths (l : List UInt8) (h : l.length % 4 = 0) :
    ∀ c ∈ chunks4 l, c.length = 4 :=
  chunksAux_all_full 3 _ l h

theorem chunks16_length (l : List UInt8) (h : l.length % 16 = 0) :
    (chunks16 l).length = l.length / 16 := by
  have h1 := length_flatten_of_all_length 16 (chunks16 l) (chunks16_lengths l h)
  rw [chunks16_flatten] at h1
  omega

theorem chunks16_of_blocks (bs : List (List UInt8)) (h : ∀ b ∈ bs, b.length = 16) :
    chunks16 bs.flatten = bs := by
  have hl := length_flatten_of_all_length 16 bs h
  have hm : bs.flatten.length % 16 = 0 := by omega
  refine eq_of_flatten_eq (chunks16_flatten _) ?_
  -- both lists of lengths are sixteens, equally many
  rw [List.map_eq_replicate_iff.2 h, List.map_eq_replicate_iff.2 (chunks16_lengths _ hm),
    chunks16_length _ hm, hl, Nat.mul_div_cancel_left _ (by decide)]

/-- Blocks with the lengths of the chunks of `l` (the image of the chunks under a length-preserving
operation) are together as long as `l` and re-chunk to themselves. -/
theorem length_flatten_of_same_lengths (bs : List (List UInt8)) (l : List UInt8)
    (h : bs.map List.length = (chunks16 l).map List.length) : bs.flatten.length = l.length := by
  rw [List.length_flatten, h, ← List.length_flatten, chunks16_flatten]

theorem chunks16_of_same_lengths (bs : List (List UInt8)) (l : List UInt8)
    (h : bs.map List.length = (chunks16 l).map List.length) : chunks16 bs.flatten = bs := by
  have hl := length_flatten_of_same_lengths bs l h
  refine eq_of_flatten_eq (chunks16_flatten _) ?_
  rw [h, chunks16, hl]
  exact chunksAux_map_length 15 _ _ _ hl

theorem ecb_cancel (f g : List UInt8 → List UInt8) (hf : ∀ b, (f b).length = b.length)
    (hgf : ∀ b, g (f b) = b) (data : List UInt8) :
    ((chunks16 ((chunks16 data).map f).flatten).map g).flatten = data := by
  rw [chunks16_of_same_lengths _ data (map_length_map f hf _), List.map_map,
    show g ∘ f = id from funext hgf, List.map_id, chunks16_flatten]

theorem ecbDecrypt_ecbEncrypt (key data : List UInt8) :
    ecbDecrypt key (ecbEncrypt key data) = data :=
  ecb_cancel _ _ (cipher_length_eq _) (invCipher_cipher _) data

theorem ecbEncrypt_ecbDecrypt (key data : List UInt8) :
    ecbEncrypt key (ecbDecrypt key data) = data :=
  ecb_cancel _ _ (invCipher_length_eq _) (cipher_invCipher _) data

theorem ecbEncrypt_length (key data : List UInt8) : (ecbEncrypt key data).length = data.length :=
  length_flatten_of_same_lengths _ data (map_length_map _ (cipher_length_eq _) _)

theorem ecbDecrypt_length (key data : List UInt8) : (ecbDecrypt key data).length = data.length :=
  length_flatten_of_same_lengths _ data (map_length_map _ (invCipher_length_eq _) _)

theorem ecbEncrypt_injective (key : List UInt8) {a b : List UInt8}
    (h : ecbEncrypt key a = ecbEncrypt key b) : a = b :=
  Function.LeftInverse.injective (ecbDecrypt_ecbEncrypt key) h

theorem ecbDecrypt_injective (key : List UInt8) {a b : List UInt8}
    (h : ecbDecrypt key a = ecbDecrypt key b) : a = b :=
  Function.LeftInverse.injective (ecbEncrypt_ecbDecrypt key) h

theorem cbcDecBlocks_cbcEncBlocks (ks : List (List UInt8)) (iv : List UInt8)
    (bs : List (List UInt8)) : cbcDecBlocks ks iv (cbcEncBlocks ks iv bs) = bs := by
  induction bs generalizing iv with
  | nil => rfl
  | cons b bs ih => simp [cbcEncBlocks, cbcDecBlocks, invCipher_cipher, xorBytes_cancel, ih]

theorem cbcEncBlocks_cbcDecBlocks (ks : List (List UInt8)) (iv : List UInt8)
    (cs : List (List UInt8)) : cbcEncBlocks ks iv (cbcDecBlocks ks iv cs) = cs := by
  induction cs generalizing iv with
  | nil => rfl
  | cons c cs ih => simp [cbcEncBlocks, cbcDecBlocks, cipher_invCipher, xorBytes_cancel, ih]

theorem cbcEncBlocks_map_length (ks : List (List UInt8)) (iv : List UInt8)
    (bs : List (List UInt8)) : (cbcEncBlocks ks iv bs).map List.length = bs.map List.length := by
  induction bs generalizing iv with
  | nil => rfl
  | cons b bs ih => simp [cbcEncBlocks, ih]

theorem cbcDecBlocks_map_length (ks : List (List UInt8)) (iv : List UInt8)
    (cs : List (List UInt8)) : (cbcDecBlocks ks iv cs).map List.length = cs.map List.length := by
  induction cs generalizing iv with
  | nil => rfl
  | cons c cs ih => simp [cbcDecBlocks, ih]

theorem cbcDecrypt_cbcEncrypt (key iv data : List UInt8) :
    cbcDecrypt key iv (cbcEncrypt key iv data) = data := by
  unfold cbcDecrypt cbcEncrypt
  rw [chunks16_of_same_lengths _ data (cbcEncBlocks_map_length _ _ _), cbcDecBlocks_cbcEncBlocks,
    chunks16_flatten]

theorem cbcEncrypt_cbcDecrypt (key iv data : List UInt8) :
    cbcEncrypt key iv (cbcDecrypt key iv data) = data := by
  unfold cbcDecrypt cbcEncrypt
  rw [chunks16_of_same_lengths _ data (cbcDecBlocks_map_length _ _ _), cbcEncBlocks_cbcDecBlocks,
    chunks16_flatten]

theorem cbcEncrypt_length (key iv data : List UInt8) :
    (cbcEncrypt key iv data).length = data.length :=
  length_flatten_of_same_lengths _ data (cbcEncBlocks_map_length _ _ _)

theorem cbcDecrypt_length (key iv data : List UInt8) :
    (cbcDecrypt key iv data).length = data.length :=
  length_flatten_of_same_lengths _ data (cbcDecBlocks_map_length _ _ _)

theorem cbcEncrypt_injective (key iv : List UInt8) {a b : List UInt8}
    (h : cbcEncrypt key iv a = cbcEncrypt key iv b) : a = b :=
  Function.LeftInverse.injective (cbcDecrypt_cbcEncrypt key iv) h

theorem cbcDecrypt_injective (key iv : List UInt8) {c c' : List UInt8}
    (h : cbcDecrypt key iv c = cbcDecrypt key iv c') : c = c' :=
  Function.LeftInverse.injective (cbcEncrypt_cbcDecrypt key iv) h

theorem pkcs7Pad_length (d : List UInt8) :
    (pkcs7Pad d).length = d.length + (16 - d.length % 16) := by
  simp [pkcs7Pad]

theorem pkcs7Pad_length_mod (d : List UInt8) : (pkcs7Pad d).length % 16 = 0 := by
  rw [pkcs7Pad_length]; omega

theorem pkcs7Pad_length_pos (d : List UInt8) : 0 < (pkcs7Pad d).length := by
  rw [pkcs7Pad_length]; omega

theorem pkcs7Pad_length_gt (d : List UInt8) : d.length < (pkcs7Pad d).length := by
  rw [pkcs7Pad_length]; omega

theorem pkcs7Pad_length_le (d : List UInt8) : (pkcs7Pad d).length ≤ d.length + 16 := by
  rw [pkcs7Pad_length]; omega

theorem pkcs7Unpad_pkcs7Pad (d : List UInt8) : pkcs7Unpad (pkcs7Pad d) = some d := by
  have hlen := pkcs7Pad_length d
  generalize hp : 16 - d.length % 16 = p at hlen
  have hx : pkcs7Pad d = d ++ List.replicate p p.toUInt8 := by simp [pkcs7Pad, hp]
  have hlast : (pkcs7Pad d).getLastD 0 = p.toUInt8 := by
    rw [hx, List.getLastD_eq_getLast?, List.getLast?_append, List.getLast?_replicate,
      if_neg (by omega)]
    rfl
  have hn : (p.toUInt8).toNat = p := UInt8.toNat_ofNat_of_lt' (by show p < 256; omega)
  rw [pkcs7Unpad, hlast, hn, if_neg (Nat.ne_of_gt (pkcs7Pad_length_pos d)),
    if_neg (not_not_intro (pkcs7Pad_length_mod d)), hlen, if_neg (by omega),
    Nat.add_sub_cancel, hx, List.drop_left, List.take_left]
  simp

theorem pkcs7Unpad_some {x d : List UInt8} (h : pkcs7Unpad x = some d) : x = pkcs7Pad d := by
  revert h
  fun_cases pkcs7Unpad x with
  | case5 h0 hmod hp hdrop =>
    rintro ⟨⟩
    have hpad : 16 - (x.take (x.length - (x.getLastD 0).toNat)).length % 16 = (x.getLastD 0).toNat := by
      rw [List.length_take, Nat.min_eq_left (Nat.sub_le _ _)]; omega
    rw [pkcs7Pad, hpad, Nat.toUInt8_eq, UInt8.ofNat_toNat, ← Decidable.not_not.mp hdrop,
      List.take_append_drop]
  | _ => nofun

theorem pkcs7Unpad_eq_some (x d : List UInt8) : pkcs7Unpad x = some d ↔ x = pkcs7Pad d :=
  ⟨pkcs7Unpad_some, fun h => h ▸ pkcs7Unpad_pkcs7Pad d⟩

theorem pkcs7Pad_injective {a b : List UInt8} (h : pkcs7Pad a = pkcs7Pad b) : a = b := by
  have := pkcs7Unpad_pkcs7Pad a
  rw [h, pkcs7Unpad_pkcs7Pad] at this
  exact (Option.some.inj this).symm

theorem pkcs7Unpad_injective {x y d : List UInt8} (hx : pkcs7Unpad x = some d)
    (hy : pkcs7Unpad y = some d) : x = y := by
  rw [pkcs7Unpad_some hx, pkcs7Unpad_some hy]

theorem pkcs7Unpad_length {x d : List UInt8} (h : pkcs7Unpad x = some d) :
    d.length < x.length ∧ x.length ≤ d.length + 16 ∧ x.length % 16 = 0 := by
  rw [pkcs7Unpad_some h]
  exact ⟨pkcs7Pad_length_gt d, pkcs7Pad_length_le d, pkcs7Pad_length_mod d⟩

theorem expandWords_spec (nk fuel i : Nat) (acc : List (List UInt8))
    (hnk : 1 ≤ nk) (hacc : nk ≤ acc.length) (hw : ∀ w ∈ acc, w.length = 4) :
    (∀ w ∈ expandWords nk fuel i acc, w.length = 4) ∧
      (expandWords nk fuel i acc).length = acc.length + fuel := by
  fun_induction expandWords nk fuel i acc with
  | case1 i acc => exact ⟨hw, rfl⟩
  | case2 fuel i acc ih =>
    have hidx : nk - 1 < acc.length := by omega
    obtain ⟨h1, h2⟩ := ih (by simp; omega) (by
      intro w hm
      rcases List.mem_cons.mp hm with rfl | hm
      · rw [xorBytes_length, List.getD_eq_getElem?_getD, List.getElem?_eq_getElem hidx]
        exact hw _ (List.getElem_mem hidx)
      · exact hw w hm)
    exact ⟨h1, by rw [h2, List.length_cons]; omega⟩

/-- For a key whose length is a positive multiple of 4 (in particular 16 or 32 bytes) the key
schedule consists of `key.length / 4 + 7` round keys of 16 bytes each. -/
theorem keyExpansion_spec (key : List UInt8) (h4 : key.length % 4 = 0) (hpos : 4 ≤ key.length) :
    (∀ k ∈ keyExpansion key, k.length = 16) ∧ (keyExpansion key).length = key.length / 4 + 7 := by
  have hc4 := chunks4_lengths key h4
  have hcnt : 4 * (chunks4 key).length = key.length := by
    rw [← length_flatten_of_all_length 4 _ hc4, chunks4_flatten]
  obtain ⟨hw, hl⟩ := expandWords_spec (key.length / 4) (key.length / 4 * 3 + 28) (key.length / 4)
    (chunks4 key).reverse (by omega) (by rw [List.length_reverse]; omega)
    (by intro w hm; exact hc4 w (List.mem_reverse.mp hm))
  unfold keyExpansion
  generalize expandWords _ _ _ _ = ws at hw hl ⊢
  have hflat : ws.reverse.flatten.length = 16 * (key.length / 4 + 7) := by
    rw [length_flatten_of_all_length 4 _ (by simpa using hw), List.length_reverse, hl,
      List.length_reverse]
    omega
  have hm : ws.reverse.flatten.length % 16 = 0 := by rw [hflat, Nat.mul_mod_right]
  exact ⟨chunks16_lengths _ hm,
    by rw [chunks16_length _ hm, hflat, Nat.mul_div_cancel_left _ (by decide)]⟩

theorem keyExpansion_lengths (key : List UInt8) (h : key.length = 16 ∨ key.length = 32) :
    ∀ k ∈ keyExpansion key, k.length = 16 :=
  (keyExpansion_spec key (by omega) (by omega)).1

theorem keyExpansion_length_128 (key : List UInt8) (h : key.length = 16) :
    (keyExpansion key).length = 11 := by
  rw [(keyExpansion_spec key (by omega) (by omega)).2, h]

theorem keyExpansion_length_256 (key : List UInt8) (h : key.length = 32) :
    (keyExpansion key).length = 15 := by
  rw [(keyExpansion_spec key (by omega) (by omega)).2, h]

#print axioms keyExpansion_spec
#print axioms chunks16_of_blocks
#print axioms ecbDecrypt_ecbEncrypt
#print axioms ecbEncrypt_ecbDecrypt
#print axioms cbcDecBlocks_cbcEncBlocks
#print axioms cbcDecrypt_cbcEncrypt
#print axioms cbcEncrypt_cbcDecrypt
#print axioms cbcDecrypt_injective
#print axioms pkcs7Unpad_pkcs7Pad
#print axioms pkcs7Unpad_some

end Msmart.Crypto.AES
